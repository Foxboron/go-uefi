import GoUefi.Gen
import GoUefi.Properties.C12
import GoUefi.Properties.C10g
/-!
# C12 (generated tie) — `testfs.TestFS.WriteVar` as the source has it

Translated by `tools/go2lean` from efivarfs/testfs/testfs.go: `TestFS.WriteVar`, the methods
`payload.Marshal` / `payload.Bytes` and `payload.as_efivar_Marshallable` (the structure that stands for a
`payload` value stored in an `efivar.Marshallable` variable, built from the two translated methods).
What is not translated is a parameter:

* `X : testfs.Externals` — `X.efivarfs_EFIFS_WriteVar` is `(*efivarfs.EFIFS).WriteVar`, the method behind the
  embedded field `f.EFIFS`: a function of that receiver, the variable and the `Marshallable` it is handed.
  Nothing is assumed about it; the theorems say *what it is handed*;
* `t : efivar.Marshallable` — the interface value: `t.Marshal k b` is the content of the buffer after the
  call at the `k`-th syntactic call site of `WriteVar` (there is one: site 0, the probe for a descriptor)
  when the buffer held `b` before.  Nothing is assumed about it: not that it appends, not that a second
  call (the one `EFIFS.WriteVar` makes) does the same.  Where a theorem needs that, it is a hypothesis.

All theorems hold for every `X`, `f`, `v`, `t`.
-/
namespace GoUefi.C12
open GoUefi GoUefi.Gen

/-- the four names for which `WriteVar` probes for an authentication descriptor -/
def gSecure (name : String) : Bool := name == "PK" || name == "KEK" || name == "db" || name == "dbx"

/-- the same predicate as the model's -/
theorem C12g_secure_names (name : String) : gSecure name = Impl.isSecureBootVar name := rfl

theorem C12g_secure_iff (name : String) :
    gSecure name = true ↔ name = "PK" ∨ name = "KEK" ∨ name = "db" ∨ name = "dbx" := by
  simp only [gSecure, Bool.or_eq_true, beq_iff_eq, or_assoc]

/-- a `payload` value `r` stored in the interface: marshals by appending `r`, and its `Bytes` is `r` —
    at every call site -/
def gPayload (r : List UInt8) : efivar.Marshallable := { Bytes := fun _ => r, Marshal := fun _ b => b ++ r }

/-- … which is what the translator builds from the translated methods of `payload` -/
theorem C12g_payload (r : List UInt8) : testfs.payload.as_efivar_Marshallable r = gPayload r := rfl

/-- the value that `WriteVar` hands to `EFIFS.WriteVar` for a secure-boot variable: with `bs` what the
    probe `t.Marshal(&b)` left in its empty buffer — the payload object of the bytes behind the descriptor
    when the (translated) descriptor reader accepts `bs`, `t` itself when it does not -/
def gUnwrapped (t : efivar.Marshallable) : efivar.Marshallable :=
  match signature.ReadEFIVariableAuthencation2 (t.Marshal 0 []) with
  | (r, _, none) => gPayload r
  | (_, _, some _) => t

/-- the value handed to `EFIFS.WriteVar`, for every name -/
def gHandedOn (name : String) (t : efivar.Marshallable) : efivar.Marshallable :=
  if gSecure name then gUnwrapped t else t

/-- **Every name**, in one equation: `WriteVar` is `EFIFS.WriteVar` on the same receiver and variable
    and on the value `gHandedOn v.Name t`; the error is the one returned. -/
theorem C12g_handedOn (X : testfs.Externals) (f : testfs.TestFS) (v : efivar.Efivar) (t : efivar.Marshallable) :
    testfs.TestFS.WriteVar X f v t = X.efivarfs_EFIFS_WriteVar f.EFIFS v (gHandedOn v.Name t) := by
  unfold testfs.TestFS.WriteVar gHandedOn gUnwrapped
  -- the condition of the source's `switch` is `gSecure v.Name`, literally
  show X.efivarfs_EFIFS_WriteVar f.EFIFS v (if gSecure v.Name then _ else t) = _
  cases gSecure v.Name
  · rfl
  · simp only [if_true, signature.EFIVariableAuthentication2.Unmarshal, C12g_payload, List.nil_append]
    rcases signature.ReadEFIVariableAuthencation2 (t.Marshal 0 []) with ⟨r, ga, _ | e⟩ <;> rfl

/-- **Other names.** For a name outside {PK, KEK, db, dbx} `WriteVar` is `EFIFS.WriteVar` on exactly the
    same variable and the same value object: no `Marshal` call is made on it before (the right-hand side
    mentions `t` only as the argument that is handed on), and the error returned is the one that
    `EFIFS.WriteVar` returns. -/
theorem C12g_plain (X : testfs.Externals) (f : testfs.TestFS) (v : efivar.Efivar) (t : efivar.Marshallable)
    (h : v.Name ≠ "PK" ∧ v.Name ≠ "KEK" ∧ v.Name ≠ "db" ∧ v.Name ≠ "dbx") :
    testfs.TestFS.WriteVar X f v t = X.efivarfs_EFIFS_WriteVar f.EFIFS v t := by
  rw [C12g_handedOn, gHandedOn, if_neg]
  rw [C12g_secure_iff, not_or, not_or, not_or]
  exact h

/-- **The four names.** For PK, KEK, db, dbx, with `bs := t.Marshal 0 []` (the one `Marshal` call that
    `WriteVar` itself makes, into an empty buffer): when the translated `ReadEFIVariableAuthencation2 bs`
    succeeds with rest `r`, `EFIFS.WriteVar` is handed a value that marshals to exactly `r` appended to
    whatever buffer it is given, at every call site, and whose `Bytes` is `r`; otherwise it is handed `t`
    itself.  The variable and the receiver are handed on as they are, the error is the one returned. -/
theorem C12g_secure (X : testfs.Externals) (f : testfs.TestFS) (v : efivar.Efivar) (t : efivar.Marshallable)
    (h : v.Name = "PK" ∨ v.Name = "KEK" ∨ v.Name = "db" ∨ v.Name = "dbx") :
    testfs.TestFS.WriteVar X f v t =
      X.efivarfs_EFIFS_WriteVar f.EFIFS v
        (match signature.ReadEFIVariableAuthencation2 (t.Marshal 0 []) with
         | (r, _, none) => { Bytes := fun _ => r, Marshal := fun _ b => b ++ r }
         | (_, _, some _) => t) := by
  rw [C12g_handedOn, gHandedOn, if_pos ((C12g_secure_iff _).2 h)]
  rfl

/-- the payload object in words: appends its bytes to any buffer, at any call site; `Bytes` gives them -/
theorem C12g_payload_marshal (r b : List UInt8) (k : Nat) :
    (gPayload r).Marshal k b = b ++ r ∧ (gPayload r).Bytes k = r ∧
    testfs.payload.Marshal r b = b ++ r ∧ testfs.payload.Bytes r = r := ⟨rfl, rfl, rfl, rfl⟩

/-- the descriptor probe in terms of the model's reader (through `GenAuthDesc.readAuth_model`): the model's rest is
    the translated reader's rest, and the two fail together -/
theorem C12g_unwrapped_model (t : efivar.Marshallable) :
    gUnwrapped t =
      match Impl.readAuth (t.Marshal 0 []) with
      | .ok (_, rest) => gPayload rest
      | _ => t := by
  rw [GenAuthDesc.readAuth_model]
  unfold gUnwrapped
  rcases signature.ReadEFIVariableAuthencation2 (t.Marshal 0 []) with ⟨r, ga, _ | e⟩
  · rfl
  · rfl

/-- **Refinement.** For a value object that is deterministic — every `Marshal` call, at whatever call site
    and into whatever buffer, appends the same `bytes` — the bytes that a `Marshal` of the handed-on value
    appends (what `EFIFS.WriteVar` writes to the variable's file behind the attributes) are the model's
    `Impl.storedValue name bytes`, for every name: the store model that the C12 theorems are about is what
    the source does. -/
theorem C12g_refines (v : efivar.Efivar) (t : efivar.Marshallable) (bytes : Bytes)
    (hdet : ∀ k b, t.Marshal k b = b ++ bytes) :
    ∀ k b, (gHandedOn v.Name t).Marshal k b = b ++ Impl.storedValue v.Name bytes := by
  intro k b
  have h0 : t.Marshal 0 [] = bytes := by rw [hdet, List.nil_append]
  unfold gHandedOn Impl.storedValue
  rw [C12g_secure_names]
  by_cases hv : Impl.isSecureBootVar v.Name = true
  · rw [if_pos hv, if_pos hv, C12g_unwrapped_model, h0]
    cases Impl.readAuth bytes with
    | ok p => rfl
    | _ => exact hdet k b
  · rw [if_neg hv, if_neg hv]
    exact hdet k b

/-- … as one statement about `WriteVar`: it is `EFIFS.WriteVar` on a value that marshals to the model's
    stored value -/
theorem C12g_refines_writeVar (X : testfs.Externals) (f : testfs.TestFS) (v : efivar.Efivar)
    (t : efivar.Marshallable) (bytes : Bytes) (hdet : ∀ k b, t.Marshal k b = b ++ bytes) :
    ∃ t', testfs.TestFS.WriteVar X f v t = X.efivarfs_EFIFS_WriteVar f.EFIFS v t' ∧
      ∀ k b, t'.Marshal k b = b ++ Impl.storedValue v.Name bytes :=
  ⟨gHandedOn v.Name t, C12g_handedOn X f v t, C12g_refines v t bytes hdet⟩

/-- **C12 for the source.** A signed update `desc ++ payload` whose descriptor decodes (leaving exactly
    `payload`) is handed to `EFIFS.WriteVar` as a value that marshals to `payload` for PK, KEK, db, dbx
    — whatever the payload is — and to `desc ++ payload`, descriptor included, for any other name. -/
theorem C12g_signed_update (v : efivar.Efivar) (t : efivar.Marshallable) (desc payload : Bytes) (d : Impl.AuthDesc)
    (hdet : ∀ k b, t.Marshal k b = b ++ (desc ++ payload))
    (ha : Impl.readAuth (desc ++ payload) = .ok (d, payload)) :
    (gSecure v.Name = true → ∀ k, (gHandedOn v.Name t).Marshal k [] = payload) ∧
    (gSecure v.Name = false → ∀ k, (gHandedOn v.Name t).Marshal k [] = desc ++ payload) := by
  constructor
  · intro hs k
    rw [C12g_refines v t _ hdet, List.nil_append, Impl.storedValue_signed ((C12g_secure_names _).symm.trans hs) ha]
  · intro hs k
    rw [C12g_refines v t _ hdet, List.nil_append, Impl.storedValue_plain ((C12g_secure_names _).symm.trans hs)]

/-- … and a value that is a decodable signature database is handed on as its own bytes under every name
    (with `C12_db_is_not_a_descriptor`: a database never parses as a descriptor) -/
theorem C12g_database (v : efivar.Efivar) (t : efivar.Marshallable) (bytes : Bytes) (db : Impl.Db)
    (hdet : ∀ k b, t.Marshal k b = b ++ bytes) (hdb : Impl.readDb bytes = some db) :
    ∀ k, (gHandedOn v.Name t).Marshal k [] = bytes := by
  intro k
  rw [C12g_refines v t _ hdet, List.nil_append, Impl.storedValue_of_readDb v.Name hdb]

/-! ### non-vacuity: concrete externals and value objects -/

/-- a toy `EFIFS.WriteVar`: marshals what it is handed into an empty buffer (as the real one does) and
    reports the bytes and the variable's name through its error -/
def exX : testfs.Externals :=
  { efivarfs_EFIFS_WriteVar := fun _ v e => some (v.Name ++ ":" ++ toString ((e.Marshal 7 []).map UInt8.toNat)) }

def exF : testfs.TestFS := ⟨⟨⟨false, false, ⟨⟩⟩⟩, ⟨⟩⟩
def exGuid : util.EFIGUID := ⟨0xd719b2cb, 0x3d3a, 0x4596, [0xa3, 0xbc, 0xda, 0xd0, 0x0e, 0x67, 0x65, 0x6f]⟩
/-- a 43-byte descriptor (3 bytes of certificate data) -/
def exDesc : Bytes := Spec.encAuth ⟨zeros 16, 27, 0x0200, 0x0EF1, zeros 16, [1, 2, 3]⟩
/-- a deterministic value object holding a signed update: that descriptor followed by `[9, 8]` -/
def exSigned : efivar.Marshallable :=
  { Bytes := fun _ => exDesc ++ [9, 8], Marshal := fun _ b => b ++ (exDesc ++ [9, 8]) }
/-- a value object that is drained by its first `Marshal` call and holds no descriptor -/
def exOnce : efivar.Marshallable :=
  { Bytes := fun _ => [5, 6], Marshal := fun k b => if k = 0 then b ++ [5, 6] else b }

/-- the hypotheses of `C12g_signed_update` hold for it … -/
example (k : Nat) (b : List UInt8) : exSigned.Marshal k b = b ++ (exDesc ++ [9, 8]) := rfl
example : ∃ d, Impl.readAuth (exDesc ++ [9, 8]) = .ok (d, [9, 8]) := ⟨_, readAuth_exDesc _⟩
example : (signature.ReadEFIVariableAuthencation2 (exSigned.Marshal 0 [])).1 = [9, 8] ∧
    (signature.ReadEFIVariableAuthencation2 (exSigned.Marshal 0 [])).2.2 = none := by decide +kernel
/-- … and the translated function, evaluated: "db" stores the payload, "Boot0001" the whole update -/
example : testfs.TestFS.WriteVar exX exF ⟨"db", exGuid, 0x27⟩ exSigned = some "db:[9, 8]" := by decide +kernel
example : testfs.TestFS.WriteVar exX exF ⟨"PK", exGuid, 0x27⟩ exSigned = some "PK:[9, 8]" := by decide +kernel
example : testfs.TestFS.WriteVar exX exF ⟨"Boot0001", exGuid, 7⟩ exSigned =
    exX.efivarfs_EFIFS_WriteVar exF.EFIFS ⟨"Boot0001", exGuid, 7⟩ exSigned :=
  C12g_plain exX exF _ exSigned (by decide)
example : (gHandedOn "Boot0001" exSigned).Marshal 3 [] = exDesc ++ [9, 8] := by decide +kernel
example : (gHandedOn "KEK" exSigned).Marshal 3 [0xaa] = [0xaa, 9, 8] ∧ (gHandedOn "KEK" exSigned).Bytes 1 = [9, 8] := by
  decide +kernel
/-- the names are compared exactly: "DB" and "db " are ordinary variables -/
example : gSecure "DB" = false ∧ gSecure "db " = false ∧ gSecure "dbx" = true ∧ gSecure "" = false := by decide
/-- why `C12g_secure` hands on `t` *itself* and `C12g_refines` needs a deterministic object: for a name of
    the four, a value without descriptor has been marshalled once (the probe) when `EFIFS.WriteVar`
    marshals it again — an object that is drained by its first `Marshal` reaches the file empty, while
    under any other name it reaches the file complete -/
example : testfs.TestFS.WriteVar exX exF ⟨"db", exGuid, 0x27⟩ exOnce = some "db:[]" ∧
    testfs.TestFS.WriteVar { efivarfs_EFIFS_WriteVar := fun _ _ e => some (toString ((e.Marshal 0 []).map UInt8.toNat)) }
      exF ⟨"OrdA", exGuid, 7⟩ exOnce = some "[5, 6]" := by decide +kernel
example : Gen.skipped.all (fun p => p.1 != "testfs.TestFS.WriteVar" && p.1 != "testfs.payload.Marshal" &&
    p.1 != "testfs.payload.Bytes" && p.1 != "testfs.payload.as_efivar_Marshallable") = true := by decide +kernel

end GoUefi.C12

#print axioms GoUefi.C12.C12g_secure_names
#print axioms GoUefi.C12.C12g_secure_iff
#print axioms GoUefi.C12.C12g_payload
#print axioms GoUefi.C12.C12g_plain
#print axioms GoUefi.C12.C12g_secure
#print axioms GoUefi.C12.C12g_handedOn
#print axioms GoUefi.C12.C12g_payload_marshal
#print axioms GoUefi.C12.C12g_unwrapped_model
#print axioms GoUefi.C12.C12g_refines
#print axioms GoUefi.C12.C12g_refines_writeVar
#print axioms GoUefi.C12.C12g_signed_update
#print axioms GoUefi.C12.C12g_database

import GoUefi.Lemmas.Guid
import GoUefi.Lemmas.Utf16
import GoUefi.Fmt
/-!
# C17 — GUID and UTF-16 string conversions are lossless and use the EFI wire layout

Only the property theorems and their non-vacuity examples live here.
Models: `GoUefi/Model/Guid.lean` (efi/util/guid.go), `GoUefi/Model/Utf16.lean` (efi/util/util.go,
efivar.Efistring).  All statements quantify over *every* GUID (`Guid.WF` = the field ranges of the
Go struct) and every NUL-free list of Unicode scalar values.
-/
namespace GoUefi.C17
open GoUefi

/-- Formatting yields the canonical text: 8-4-4-4-12 lower-case hex digits separated by dashes
    (36 characters). -/
theorem C17_format_canonical (g : Guid) (h : g.WF) :
    ∃ a b c d e : List Char, g.format = a ++ '-' :: b ++ '-' :: c ++ '-' :: d ++ '-' :: e ∧
      a.length = 8 ∧ b.length = 4 ∧ c.length = 4 ∧ d.length = 4 ∧ e.length = 12 ∧
      (∀ x ∈ a ++ b ++ c ++ d ++ e, isLowerHex x = true) ∧ g.format.length = 36 := by
  have h2 : (g.d4.take 2).length = 2 := by rw [List.length_take, h.2.2.2]; rfl
  have h6 : (g.d4.drop 2).length = 6 := by rw [List.length_drop, h.2.2.2]
  refine ⟨hexBytes (be32 g.d1), hexBytes (be16 g.d2), hexBytes (be16 g.d3), hexBytes (g.d4.take 2),
    hexBytes (g.d4.drop 2), rfl, hexBytes_length _, hexBytes_length _, hexBytes_length _,
    by rw [hexBytes_length, h2], by rw [hexBytes_length, h6], ?_, ?_⟩
  · -- the digits are those of one byte string
    intro x hx
    rw [← hexBytes_append, ← hexBytes_append, ← hexBytes_append, ← hexBytes_append] at hx
    exact hexBytes_forall (fun c => isLowerHex c = true) hexDigit_lower _ x hx
  · simp only [Guid.format, List.length_append, List.length_cons, hexBytes_length, h2, h6]
    rfl

/-- Parsing the formatted text, in lower or in upper case, returns the same GUID. -/
theorem C17_text_roundtrip (g : Guid) (h : g.WF) :
    stringToGuid g.format = g ∧ stringToGuid (g.format.map upperChar) = g := by
  have lower := stringToGuid_format_map id hexVal_hexDigit hexDigit_ne_dash rfl g h
  rw [List.map_id] at lower
  exact ⟨lower, stringToGuid_format_map upperChar hexVal_upper_hexDigit upper_hexDigit_ne_dash (by decide) g h⟩

/-- The 16-byte big-endian form round-trips in both directions. -/
theorem C17_bytes_roundtrip :
    (∀ g : Guid, g.WF → bytesToGuid (guidToBytes g) = g) ∧
    (∀ bs : Bytes, bs.length = 16 → guidToBytes (bytesToGuid bs) = bs ∧ (bytesToGuid bs).WF) :=
  ⟨bytesToGuid_guidToBytes, fun bs h => ⟨guidToBytes_bytesToGuid bs h, bytesToGuid_wf bs⟩⟩

/-- `CmpEFIGUID` (a field-wise comparison) answers true exactly on equal GUIDs. -/
theorem C17_cmp (a b : Guid) : cmpGuid a b = true ↔ a = b := by
  cases a; cases b
  simp [cmpGuid, and_assoc]

/-- Inside encoded structures a GUID is Data1, Data2, Data3 little-endian followed by Data4,
    16 bytes, and decoding those bytes gives the GUID back. -/
theorem C17_wire (g : Guid) (h : g.WF) :
    guidWire g = le32 g.d1 ++ le16 g.d2 ++ le16 g.d3 ++ g.d4 ∧ (guidWire g).length = 16 ∧
    guidOfWire (guidWire g) = g :=
  ⟨rfl, by simp [guidWire, h.2.2.2], guidOfWire_guidWire g h⟩

/-- Encoding any NUL-free string yields UTF-16LE plus one NUL terminator, and decoding returns the
    original string — for every Unicode scalar value, surrogate pairs included; `Efistring`
    additionally ignores whatever follows the terminator. -/
theorem C17_utf16_roundtrip (s : List Char) (h : ∀ c ∈ s, c ≠ '\x00') :
    marshalUtf16 s = unitsToBytes (utf16enc s) ++ [0, 0] ∧
    parseUtf16 (marshalUtf16 s) = .ok s ∧
    ∀ tail, efistringUnmarshal (marshalUtf16 s ++ tail) = .ok s :=
  ⟨rfl, parseUtf16_marshal s h, efistring_marshal s h⟩

/-- Regenerated tie: the format string that `EFIGUID.Format` passes to `fmt.Sprintf` in the current
    source (extracted on every run) lies in the class of format strings whose meaning is
    `Guid.format`.  An absent fact (function renamed) makes this vacuous; the differential run then
    carries the tie alone. -/
theorem C17_format_string_in_class :
    ∀ s ∈ Fmt.formatsOf "efi/util" "EFIGUID.Format", Fmt.GuidFmtOk (Fmt.parse s.toList) = true := by
  decide +kernel

/-! ### non-vacuity: concrete values meeting the hypotheses -/
example : (⟨0x8be4df61, 0x93ca, 0x11d2, [0xaa, 0x0d, 0x00, 0xe0, 0x98, 0x03, 0x2b, 0x8c]⟩ : Guid).WF := by decide
example : String.ofList (⟨0x8be4df61, 0x93ca, 0x11d2, [0xaa, 0x0d, 0x00, 0xe0, 0x98, 0x03, 0x2b, 0x8c]⟩ : Guid).format
    = "8be4df61-93ca-11d2-aa0d-00e098032b8c" := by decide +kernel
example : ∀ c ∈ ['h', 'é', Char.ofNat 0x1F600], c ≠ '\x00' := by decide
example : marshalUtf16 ['h', Char.ofNat 0x1F600] = [0x68, 0, 0x3d, 0xd8, 0x00, 0xde, 0, 0] := by decide

end GoUefi.C17

import GoUefi.Properties.C09g
/-!
# C09 (generated tie, second part) — the remaining exported database operations

`Properties/C09g.lean` covers `Append`, `Remove`, the membership tests and `AppendList` as translated
from the source.  This file states what `SignatureDatabase.AppendSignature`, `RemoveSignature`,
`AppendDatabase`, `RemoveList` (all regenerated into `GoUefi/Gen.lean` from
`efi/signature/signature_database.go` on every run) do to the ordered entry collection, for EVERY
database value (no invariant, no size hypothesis unless stated).  The two wrappers are `Append` /
`Remove` of the entry's owner and data, so what `C09g.lean` proves of those holds of them verbatim.
`AppendDatabase` is `++`: every list of the argument, in order, after every list of the receiver,
nothing merged, nothing dropped.  `RemoveList` removes the FIRST list equal to its argument and
nothing else, or answers `ErrNotFoundSigList` and returns the database unchanged.
-/
namespace GoUefi.C09
open GoUefi GoUefi.Gen

/-- `SignatureDatabase.AppendSignature` is `Append` of the entry's fields: same database, same error -/
theorem C09h_appendSignature (E : Ext) (sd : signature.SignatureDatabase) (t : util.EFIGUID)
    (s : signature.SignatureData) :
    sd.AppendSignature E t s = sd.Append E t s.Owner s.Data := by
  -- `rfl` without the `unfold` costs ten times as much to check
  unfold signature.SignatureDatabase.AppendSignature
  rfl

/-- `SignatureDatabase.RemoveSignature` is `Remove` of the entry's fields -/
theorem C09h_removeSignature (sd : signature.SignatureDatabase) (t : util.EFIGUID)
    (s : signature.SignatureData) :
    sd.RemoveSignature t s = sd.Remove t s.Owner s.Data := rfl

/-- so the wrapper refines the model's `append` exactly as `Append` does (same hypotheses as
    `C09g_append_partial`: the sums Go computes in `uint32` do not wrap) -/
theorem C09h_appendSignature_refines {E : Ext} {sd : signature.SignatureDatabase} {t : util.EFIGUID}
    {s : signature.SignatureData}
    (hdb : DbOK sd) (hinv : (absDb sd).Inv) (ht : GuidOK t) (ho : GuidOK s.Owner)
    (hd : s.Data.length + 16 < 2^32) (hd' : ((absE E).norm (gw t) s.Data).length + 16 < 2^32)
    (hd'' : ((absE E).norm (gw t) ((absE E).norm (gw t) s.Data)).length + 16 < 2^32)
    (hls : ∀ l ∈ sd, l.ListSize.toNat +
      ((absE E).norm (gw t) ((absE E).norm (gw t) s.Data)).length + 16 < 2^32)
    (hnew : sd = [] → 28 + ((absE E).norm (gw t) ((absE E).norm (gw t) s.Data)).length + 16 < 2^32) :
    AppRel sd absDb (sd.AppendSignature E t s)
      ((absDb sd).append (absE E) (gw t) (gw s.Owner) s.Data) := by
  rw [C09h_appendSignature]
  exact C09g_append_partial hdb hinv ht ho hd hd' hd'' hls hnew

theorem C09h_removeSignature_refines {sd : signature.SignatureDatabase} {t : util.EFIGUID}
    {s : signature.SignatureData}
    (hdb : DbOK sd) (hinv : (absDb sd).Inv) (ht : GuidOK t) (ho : GuidOK s.Owner)
    (hd : s.Data.length + 16 < 2^32) :
    RmRel sd absDb (sd.RemoveSignature t s) ((absDb sd).remove (gw t) (gw s.Owner) s.Data) := by
  rw [C09h_removeSignature]
  exact C09g_remove hdb hinv ht ho hd

/-- the list-level wrappers likewise: `SignatureList.AppendSignature` / `RemoveSignature` are
    `AppendBytes` / `RemoveBytes` of the entry's fields -/
theorem C09h_list_appendSignature (E : Ext) (sl : signature.SignatureList) (s : signature.SignatureData) :
    sl.AppendSignature E s = sl.AppendBytes E s.Owner s.Data := rfl

theorem C09h_list_removeSignature (sl : signature.SignatureList) (s : signature.SignatureData) :
    sl.RemoveSignature s = sl.RemoveBytes s.Owner s.Data := rfl

/-- wrongly-sized SHA-256 / externally-managed data is refused through the wrapper as well, for every
    database value, owner and `pem.Decode`, and the database is returned as it was (F37) -/
theorem C09h_appendSignature_wrong_size (E : Ext) (sd : signature.SignatureDatabase) (t : util.EFIGUID)
    (s : signature.SignatureData)
    (h : (t = signature.CERT_SHA256_GUID ∧ s.Data.length ≠ 32) ∨
         (t = signature.CERT_EXTERNAL_MANAGEMENT_GUID ∧ s.Data.length ≠ 1)) :
    (sd.AppendSignature E t s).2.isSome = true ∧ (sd.AppendSignature E t s).1 = sd := by
  rw [C09h_appendSignature]
  exact C09g_append_wrong_size E sd t s.Owner s.Data h

theorem appendDatabase_loop (s sd : signature.SignatureDatabase) :
    signature.SignatureDatabase.AppendDatabase.loop1 s sd = Loop.done (sd ++ s) := by
  induction s generalizing sd with
  | nil => simp [signature.SignatureDatabase.AppendDatabase.loop1]
  | cons l rest ih =>
    rw [signature.SignatureDatabase.AppendDatabase.loop1, List.append_cons]
    simp only [signature.SignatureDatabase.AppendList, ih]

/-- `AppendDatabase` concatenates: the lists of `s`, in order, behind the lists of `sd` -/
theorem C09h_appendDatabase (sd s : signature.SignatureDatabase) :
    sd.AppendDatabase s = sd ++ s := by
  unfold signature.SignatureDatabase.AppendDatabase
  rw [appendDatabase_loop]

/-- it is the fold of the model's `appendList` over the lists of `s` -/
theorem C09h_appendDatabase_model (sd s : signature.SignatureDatabase) :
    absDb (sd.AppendDatabase s) = (absDb s).foldl Impl.Db.appendList (absDb sd) := by
  rw [C09h_appendDatabase]
  induction s generalizing sd with
  | nil => simp [absDb]
  | cons l rest ih =>
    rw [List.append_cons, ih, absDb_cons, List.foldl_cons, absDb_append]
    rfl

/-- the ordered entry collection of the result is the concatenation of the two collections -/
theorem C09h_appendDatabase_entries (sd s : signature.SignatureDatabase) :
    Impl.abs (absDb (sd.AppendDatabase s)) = Impl.abs (absDb sd) ++ Impl.abs (absDb s) := by
  rw [C09h_appendDatabase, absDb_append, Impl.abs_append]

/-- the invariant of both operands is the invariant of the result (and conversely) -/
theorem C09h_appendDatabase_inv (sd s : signature.SignatureDatabase) :
    (absDb (sd.AppendDatabase s)).Inv ↔ (absDb sd).Inv ∧ (absDb s).Inv := by
  rw [C09h_appendDatabase, absDb_append]
  exact List.forall_mem_append

theorem C09h_appendDatabase_nil (sd : signature.SignatureDatabase) :
    sd.AppendDatabase [] = sd := by rw [C09h_appendDatabase, List.append_nil]

theorem C09h_appendDatabase_assoc (a b c : signature.SignatureDatabase) :
    (a.AppendDatabase b).AppendDatabase c = a.AppendDatabase (b.AppendDatabase c) := by
  simp only [C09h_appendDatabase, List.append_assoc]

/-- membership after `AppendDatabase`: an entry is in the result iff it is in one of the operands -/
theorem C09h_appendDatabase_mem (sd s : signature.SignatureDatabase) (e : Bytes × Bytes × Bytes) :
    e ∈ Impl.abs (absDb (sd.AppendDatabase s)) ↔ e ∈ Impl.abs (absDb sd) ∨ e ∈ Impl.abs (absDb s) := by
  rw [C09h_appendDatabase_entries, List.mem_append]

/-- `RemoveList` removes the first list equal to `sl` — and only it — or reports
    `ErrNotFoundSigList` and returns its receiver -/
theorem C09h_removeList (sd : signature.SignatureDatabase) (sl : signature.SignatureList) :
    sd.RemoveList sl = if sl ∈ sd then (sd.erase sl, none) else (sd, some "ErrNotFoundSigList") :=
  signature.SignatureDatabase.RemoveList_eq sd sl

theorem C09h_removeList_err_iff (sd : signature.SignatureDatabase) (sl : signature.SignatureList) :
    (sd.RemoveList sl).2.isSome = true ↔ sl ∉ sd := by
  rw [C09h_removeList]; split <;> simp [*]

theorem C09h_removeList_err_unchanged (sd : signature.SignatureDatabase) (sl : signature.SignatureList)
    (h : sl ∉ sd) : sd.RemoveList sl = (sd, some "ErrNotFoundSigList") := by
  rw [C09h_removeList, if_neg h]

/-- success: the database splits around the first occurrence, which is what disappears -/
theorem C09h_removeList_split (sd : signature.SignatureDatabase) (sl : signature.SignatureList)
    (h : sl ∈ sd) :
    ∃ pre rest, sd = pre ++ sl :: rest ∧ sl ∉ pre ∧ sd.RemoveList sl = (pre ++ rest, none) := by
  obtain ⟨pre, rest, hsd, hnot⟩ := List.eq_append_cons_of_mem h
  exact ⟨pre, rest, hsd, hnot, by rw [hsd, signature.SignatureDatabase.RemoveList_new pre rest sl hnot]⟩

/-- the entries of all other lists keep their order: the entry collection loses exactly the
    contiguous block of the removed list -/
theorem C09h_removeList_entries (sd : signature.SignatureDatabase) (sl : signature.SignatureList)
    (h : sl ∈ sd) :
    ∃ pre rest, sd = pre ++ sl :: rest ∧
      Impl.abs (absDb sd) = Impl.abs (absDb pre) ++ Impl.abs (absDb [sl]) ++ Impl.abs (absDb rest) ∧
      Impl.abs (absDb (sd.RemoveList sl).1) = Impl.abs (absDb pre) ++ Impl.abs (absDb rest) := by
  obtain ⟨pre, rest, hsd, _, hr⟩ := C09h_removeList_split sd sl h
  refine ⟨pre, rest, hsd, ?_, ?_⟩
  · rw [hsd, List.append_cons, absDb_append, absDb_append, Impl.abs_append, Impl.abs_append]
  · rw [hr, absDb_append, Impl.abs_append]

theorem C09h_removeList_length (sd : signature.SignatureDatabase) (sl : signature.SignatureList)
    (h : sl ∈ sd) : (sd.RemoveList sl).1.length + 1 = sd.length := by
  obtain ⟨pre, rest, hsd, _, hr⟩ := C09h_removeList_split sd sl h
  rw [hr, hsd, List.length_append, List.length_append, List.length_cons, Nat.add_assoc]

/-- the invariant survives `RemoveList` (it is per list) -/
theorem C09h_removeList_inv (sd : signature.SignatureDatabase) (sl : signature.SignatureList)
    (hinv : (absDb sd).Inv) : (absDb (sd.RemoveList sl).1).Inv := by
  rw [C09h_removeList]
  split
  · exact fun l hl => hinv l (List.map_subset absL List.erase_subset hl)
  · exact hinv

/-- `AppendList` then `RemoveList` of a list the database did not hold gives the database back -/
theorem C09h_appendList_removeList (sd : signature.SignatureDatabase) (sl : signature.SignatureList)
    (h : sl ∉ sd) : (sd.AppendList sl).RemoveList sl = (sd, none) := by
  rw [signature.SignatureDatabase.AppendList, signature.SignatureDatabase.RemoveList_new sd [] sl h,
    List.append_nil]

/-! ### non-vacuity: concrete databases evaluated by the kernel -/

private def gA : util.EFIGUID := ⟨1, 2, 3, [0, 1, 2, 3, 4, 5, 6, 7]⟩
private def lX : signature.SignatureList := signature.NewSignatureList signature.CERT_X509_GUID
private def lS : signature.SignatureList := signature.NewSignatureList signature.CERT_SHA256_GUID

example : signature.SignatureDatabase.AppendDatabase [lX] [lS, lX] = [lX, lS, lX] := by
  rw [C09h_appendDatabase]; rfl
example : (signature.SignatureDatabase.RemoveList [lS, lX, lS, lX] lX).1 = [lS, lS, lX] := by
  rw [C09h_removeList]; decide
example : (signature.SignatureDatabase.RemoveList [lS] lX).2 = some "ErrNotFoundSigList" := by
  rw [C09h_removeList]; decide

end GoUefi.C09

#print axioms GoUefi.C09.C09h_appendSignature
#print axioms GoUefi.C09.C09h_removeSignature
#print axioms GoUefi.C09.C09h_appendSignature_refines
#print axioms GoUefi.C09.C09h_removeSignature_refines
#print axioms GoUefi.C09.C09h_appendDatabase
#print axioms GoUefi.C09.C09h_appendDatabase_model
#print axioms GoUefi.C09.C09h_appendDatabase_entries
#print axioms GoUefi.C09.C09h_appendDatabase_inv
#print axioms GoUefi.C09.C09h_appendDatabase_nil
#print axioms GoUefi.C09.C09h_appendDatabase_assoc
#print axioms GoUefi.C09.C09h_appendDatabase_mem
#print axioms GoUefi.C09.C09h_removeList
#print axioms GoUefi.C09.C09h_removeList_err_iff
#print axioms GoUefi.C09.C09h_removeList_err_unchanged
#print axioms GoUefi.C09.C09h_removeList_split
#print axioms GoUefi.C09.C09h_removeList_entries
#print axioms GoUefi.C09.C09h_removeList_length
#print axioms GoUefi.C09.C09h_removeList_inv
#print axioms GoUefi.C09.C09h_appendList_removeList
#print axioms GoUefi.C09.C09h_list_appendSignature
#print axioms GoUefi.C09.C09h_list_removeSignature
#print axioms GoUefi.C09.C09h_appendSignature_wrong_size

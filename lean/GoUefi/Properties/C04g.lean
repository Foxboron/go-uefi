import GoUefi.Gen
import GoUefi.Model.Pkcs7
import GoUefi.Lemmas.GenPkcs7
import GoUefi.Lemmas.Pkcs7Verify
/-!
# C04 (generated tie) — signer selection and the verification loop, as the source has them

`GoUefi/Gen.lean` (regenerated from `/repo` on every run by `tools/go2lean`) holds the translation of
`signerinfo.isCertificate`, `PKCS7.Verify` and `PKCS7.HasCertificate` (pkcs7/pkcs7.go).  The
cryptographic part, `signerinfo.verify`, is not translated: it is the field `signerinfo_verify` of
the generated parameter structure `pkcs7.Ext`, and the theorems hold for every value of it.

What is proved of the translated code: a signer entry is selected exactly by issuer bytes and serial
number; `Verify` answers `true` exactly when the FIRST entry that names the certificate and does not
answer `(false, nil)` answers `(true, nil)` — in particular an entry that does not name the
certificate is never tried; and the loop is the model's `Impl.verifySigners` for every external
`verify` that the model's `Signer.verify` describes.
-/
namespace GoUefi.C04
open GoUefi GoUefi.Gen GoUefi.GenPkcs7

/-- `isCertificate` as translated: issuer bytes and serial number both equal (and nothing else) -/
theorem C04g_isCertificate (s : pkcs7.signerinfo) (c : X509Cert) :
    s.isCertificate c = true ↔
      c.RawIssuer = s.IssuerAndSerialnumber.RawIssuer ∧ c.SerialNumber = s.IssuerAndSerialnumber.SerialNumber :=
  isCertificate_iff s c

/-- `Verify` succeeds exactly when some entry that names the certificate is accepted by the
    external check and every earlier entry that names it answered `(false, nil)`. -/
theorem C04g_verify_true_iff (X : pkcs7.Ext) (p : pkcs7.PKCS7) (c : X509Cert) :
    p.Verify X c = (true, none) ↔
      ∃ pre s post, p.SignerInfo = pre ++ s :: post ∧ s.isCertificate c = true ∧
        X.signerinfo_verify s c p.ContentInfo = (true, none) ∧
        ∀ s' ∈ pre, s'.isCertificate c = true → X.signerinfo_verify s' c p.ContentInfo = (false, none) := by
  -- the answer without a verdict is `(false, nil)`: success is the verdict of an entry, the first that has one
  simp only [verify_eq, Option.getD_eq_iff, Prod.mk.injEq, Bool.false_eq_true, false_and, and_false, or_false,
    List.findSome?_eq_some_iff, verdict_true_iff, verdict_none_iff, and_assoc]

/-- An entry that does not name the certificate is never handed to the signature check: `Verify`
    only depends on the external check through the entries that name the certificate. -/
theorem C04g_verify_only_named (X X' : pkcs7.Ext) (p : pkcs7.PKCS7) (c : X509Cert)
    (h : ∀ s ∈ p.SignerInfo, s.isCertificate c = true →
      X.signerinfo_verify s c p.ContentInfo = X'.signerinfo_verify s c p.ContentInfo) :
    p.Verify X c = p.Verify X' c := by
  rw [verify_eq, verify_eq, findSome?_congr fun s hs => verdict_congr (h s hs)]

/-- `Verify` never reports success together with an error, and `(true, _)` only as `(true, nil)`. -/
theorem C04g_verify_shape (X : pkcs7.Ext) (p : pkcs7.PKCS7) (c : X509Cert) :
    (p.Verify X c).1 = true → (p.Verify X c).2 = none := by
  rw [verify_eq]
  cases h : p.SignerInfo.findSome? (verdict X p c) with
  | none => exact fun _ => rfl
  | some r =>
    obtain ⟨s, _, hs⟩ := List.exists_of_findSome?_eq_some h
    rcases verdict_shape hs with rfl | ⟨e, rfl⟩
    · exact fun _ => rfl
    · exact fun e => absurd e Bool.false_ne_true

/-- `HasCertificate`: some entry names the certificate -/
theorem C04g_hasCertificate (p : pkcs7.PKCS7) (c : X509Cert) :
    p.HasCertificate c = true ↔ ∃ s ∈ p.SignerInfo, s.isCertificate c = true := by
  rw [hasCertificate_eq, List.any_eq_true]

/-! ### refinement to the hand-written model `Impl.verifySigners` -/

/-- result of the translated code against the model's `Outcome Bool` -/
def VRel (g : Bool × GoErr) (m : Outcome Bool) : Prop :=
  match g, m with
  | (true, none), .ok true => True
  | (false, none), .ok false => True
  | (false, some _), .err => True
  | _, _ => False

theorem isCertificate_abs (s : pkcs7.signerinfo) (c : X509Cert) (ms : Impl.Signer) (ac : Cert)
    (hi : ms.issuer = s.IssuerAndSerialnumber.RawIssuer ∧ ms.serial = s.IssuerAndSerialnumber.SerialNumber)
    (hc : ac.rawIssuer = c.RawIssuer ∧ ac.serial = c.SerialNumber) :
    ms.isCertificate ac = s.isCertificate c := by
  rw [Bool.eq_iff_iff, isCertificate_iff, Impl.isCertificate_iff, hi.1, hi.2, hc.1, hc.2]
  exact and_congr eq_comm eq_comm

/-- For every abstraction of signer entries and certificates that keeps issuer and serial, and every
    external check that the model's `Signer.verify` describes on the entries of `p`, the translated
    loop computes what `Impl.verifySigners` computes. -/
theorem C04g_verify_refines (C : Crypto) (X : pkcs7.Ext) (p : pkcs7.PKCS7) (c : X509Cert)
    (absS : pkcs7.signerinfo → Impl.Signer) (ac : Cert)
    (hi : ∀ s ∈ p.SignerInfo, (absS s).issuer = s.IssuerAndSerialnumber.RawIssuer ∧
      (absS s).serial = s.IssuerAndSerialnumber.SerialNumber)
    (hc : ac.rawIssuer = c.RawIssuer ∧ ac.serial = c.SerialNumber)
    (hX : ∀ s ∈ p.SignerInfo, VRel (X.signerinfo_verify s c p.ContentInfo)
      ((absS s).verify C ac p.ContentInfo)) :
    VRel (p.Verify X c) (Impl.verifySigners C ac p.ContentInfo (p.SignerInfo.map absS)) := by
  rw [verify_eq]
  generalize p.SignerInfo = l at hi hX ⊢
  induction l with
  | nil => exact True.intro
  | cons a r ih =>
    have ih' := ih (fun s hs => hi s (List.mem_cons_of_mem _ hs)) (fun s hs => hX s (List.mem_cons_of_mem _ hs))
    have hia := isCertificate_abs a c (absS a) ac (hi a (List.mem_cons_self ..)) hc
    have hXa := hX a (List.mem_cons_self ..)
    rw [List.findSome?_cons, List.map_cons, Impl.verifySigners, hia, verdict]
    cases a.isCertificate c with
    | false => exact ih'
    | true =>
      rw [if_pos rfl, if_pos rfl]
      -- related answers are `(true, nil)` / `.ok true` and `(false, err)` / `.err`: both are verdicts, and the relation holds
      -- of them; `(false, nil)` is related to `.ok false` only, which the model's `signerinfo.verify` never answers
      unfold VRel at hXa
      split at hXa
      · rename_i hv hm
        rw [hv, hm]
        exact True.intro
      · rename_i hv hm
        exact absurd hm (Impl.Signer.verify_ne_ok_false C (absS a) ac p.ContentInfo)
      · rename_i hv hm
        rw [hv, hm]
        exact True.intro
      · exact hXa.elim

/-! ### non-vacuity -/
section Examples
def exCert : X509Cert := ⟨[], [1, 2], [1, 2], 7⟩
def exS (iss : List UInt8) (ser : Int) (sig : List UInt8) : pkcs7.signerinfo :=
  ⟨1, sig, ⟨⟩, ⟨⟨⟩, [], ⟨⟩, [], []⟩, ⟨⟩, ⟨iss, ser⟩⟩
/-- an external check that accepts exactly the entries whose signature is `[1]` -/
def exX : pkcs7.Ext := ⟨fun s _ _ => if s.EncryptedDigest = [1] then (true, none) else (false, some "bad")⟩
def exP : pkcs7.PKCS7 := ⟨⟨⟩, [exS [9] 7 [0], exS [1, 2] 7 [1]], [], [], ⟨⟩⟩
/-- the first entry does not name the certificate and is skipped although its signature is bad -/
example : exP.Verify exX exCert = (true, none) := by decide +kernel
example : (exS [9] 7 [0]).isCertificate exCert = false := by decide +kernel
example : exP.HasCertificate exCert = true := by decide +kernel
/-- the first entry that names the certificate decides: a bad one in front of a good one is an error -/
example : (⟨⟨⟩, [exS [1, 2] 7 [0], exS [1, 2] 7 [1]], [], [], ⟨⟩⟩ : pkcs7.PKCS7).Verify exX exCert ≠ (true, none) := by
  decide +kernel
end Examples

end GoUefi.C04

#print axioms GoUefi.C04.C04g_isCertificate
#print axioms GoUefi.C04.C04g_verify_true_iff
#print axioms GoUefi.C04.C04g_verify_only_named
#print axioms GoUefi.C04.C04g_verify_shape
#print axioms GoUefi.C04.C04g_hasCertificate
#print axioms GoUefi.C04.C04g_verify_refines

import GoUefi.Properties.C03g
import GoUefi.Properties.C15
/-!
# C15 (generated tie) — a failed signing leaves the image object as it was, for the source's `Sign`

`authenticode.PECOFFBinary.Sign` as translated from authenticode/checksum.go on every run (`GoUefi/Gen.lean`; the
modelling is described at the top of `Properties/C03g.lean`): `SignAuthenticode` — the code that hashes the image and
calls the caller's `crypto.Signer` — is an external parameter, universally quantified.
-/
namespace GoUefi.C15
open GoUefi GoUefi.Gen GoUefi.C03

/-- **for every value of the externals and every receiver**: `Sign` reports an error exactly when `SignAuthenticode`
    does; then the receiver is unchanged and no signature is returned -/
theorem C15g_sign_atomic (X : authenticode.Ext) (p : authenticode.PECOFFBinary) (key : CryptoSigner) (cert : X509Cert) :
    ((authenticode.PECOFFBinary.Sign X p key cert).2.2.isSome ↔
      (X.SignAuthenticode key cert (X.makeSectionReader p.hashContent).content (5 : crypto.Hash)).2.2.isSome) ∧
    ((authenticode.PECOFFBinary.Sign X p key cert).2.2.isSome →
      (authenticode.PECOFFBinary.Sign X p key cert).1 = p ∧ (authenticode.PECOFFBinary.Sign X p key cert).2.1 = []) := by
  rw [C03g_sign X p key cert]
  generalize X.SignAuthenticode key cert (X.makeSectionReader p.hashContent).content (5 : crypto.Hash) = r
  cases r.2.2.isSome <;> simp

/-- **refinement**: through `absP` the translated `Sign` is the model's `Impl.signImage` (about which
    `C15_sign_atomic` is stated), with the external's answer as the signing result -/
theorem C15g_sign_refines (X : authenticode.Ext) (p : authenticode.PECOFFBinary) (key : CryptoSigner) (cert : X509Cert)
    (parts : List Impl.Part) (regular : Bool) (h0 : 0 ≤ p.length) :
    let r := X.SignAuthenticode key cert (X.makeSectionReader p.hashContent).content (5 : crypto.Hash)
    absP (authenticode.PECOFFBinary.Sign X p key cert).1 parts regular =
      (Impl.signImage (if r.2.2.isSome then none else some r.2.1) (absP p parts regular)).2 := by
  rw [C03g_sign X p key cert]
  generalize X.SignAuthenticode key cert (X.makeSectionReader p.hashContent).content (5 : crypto.Hash) = r
  cases he : r.2.2.isSome
  · simp only [he, Bool.false_eq_true, if_false, Impl.signImage]
    exact C03g_append_refines p _ parts regular h0
  · simp only [he, if_true, Impl.signImage]

example : (authenticode.PECOFFBinary.Sign { X0 with SignAuthenticode := fun _ _ r _ => (r, [7], some "hsm") } p0 ⟨0⟩ certA).1
    = p0 := by decide +kernel

end GoUefi.C15

#print axioms GoUefi.C15.C15g_sign_atomic
#print axioms GoUefi.C15.C15g_sign_refines

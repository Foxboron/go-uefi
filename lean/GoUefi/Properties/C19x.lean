import GoUefi.Extracted
/-! C19 — regenerated tie: which receiver fields the read-only methods of the current source assign,
    which mutating buffer methods they call on receiver fields (directly or through a one-level
    alias), and with which receiver kind the signed-update wrapper is declared -/
namespace GoUefi.C19
open GoUefi

def writesOf (m : String) : List String :=
  match Extracted.writes.find? (·.1 == m) with
  | some x => x.2
  | none => []

/-- the methods the property calls read-only -/
def readOnlyMethods : List String := [
  "authenticode.PECOFFBinary.Hash", "authenticode.PECOFFBinary.Bytes", "authenticode.PECOFFBinary.Open",
  "authenticode.PECOFFBinary.Signatures", "authenticode.PECOFFBinary.Verify", "authenticode.PECOFFBinary.signatureBytes",
  "authenticode.multi.ReadAt", "authenticode.multi.Size", "authenticode.readerAtSize.Size",
  "authenticode.Authenticode.Verify",
  "efi/signature.SignatureDatabase.Bytes", "efi/signature.SignatureDatabase.Marshal", "efi/signature.SignatureDatabase.BytesExists",
  "efi/signature.SignatureDatabase.SigDataExists", "efi/signature.SignatureDatabase.Exists",
  "efi/signature.SignatureList.Bytes", "efi/signature.SignatureList.Exists", "efi/signature.SignatureList.ExistsInList",
  "efi/signature.SignatureList.CmpHeader", "efi/signature.SignatureData.Bytes",
  "efi/signature.EFIVariableAuthentication2.Marshal", "efi/signature.EFIVariableAuthentication2.Verify",
  "efi/signature.efibytes.Marshal", "efi/signature.efibytes.Bytes", "efivarfs.efibytes.Marshal", "efivarfs.efibytes.Bytes",
  "pkcs7.PKCS7.Verify", "pkcs7.PKCS7.HasCertificate", "pkcs7.signerinfo.verify", "pkcs7.signerinfo.isCertificate", "pkcs7.Attributes.Marshal"]

/-- no read-only method assigns a receiver field or calls a consuming buffer method on one -/
theorem C19_extracted_write_sets : ∀ m ∈ readOnlyMethods, writesOf m = [] := by decide +kernel

/-- the signed-update wrappers, whose `Marshal` hands the address of the receiver to `io.Copy`
    (which drains it), are declared with VALUE receivers, so what is drained is a copy: this is the
    fact `Impl.updMarshal` models (and `Impl.updMarshalPtr` is what a pointer receiver would mean) -/
theorem C19_extracted_value_receivers :
    ∀ m ∈ Extracted.receiverAddressEscapes, Extracted.valueReceivers.contains m = true := by decide +kernel

/-- every listed method exists in the current source (so the two obligations above are not vacuous) -/
theorem C19_extracted_methods_exist : ∀ m ∈ readOnlyMethods, Extracted.funcs.contains m = true := by decide +kernel

end GoUefi.C19

import GoUefi.Lemmas.Boot
/-!
# C18 — boot-order entries name the firmware's variables; load options decode to their fields

Only the property theorems and their non-vacuity examples live here.
Model: `GoUefi/Model/Boot.lean` (efivarfs boot order / `GetBootEntry`, efi/device load options and
device paths).  Helper lemmas and the well-formedness predicates `Impl.Node.WF`,
`Impl.LoadOption.WF`, `isUpperHex`: `GoUefi/Lemmas/Boot.lean`.
-/
namespace GoUefi.C18
open GoUefi

/-- A BootOrder entry with value `n` is turned into the firmware's variable name for `n`. -/
theorem C18_names (n : Nat) (h : n < 65536) : Impl.bootOrder (le16 n) = [Spec.fwBootName n] :=
  bootOrder_le16 n h []

/-- The same for a BootOrder variable of any length: entry by entry, in order. -/
theorem C18_names_list (ns : List Nat) (h : ∀ n ∈ ns, n < 65536) :
    Impl.bootOrder (ns.flatMap le16) = ns.map Spec.fwBootName := by
  rw [bootOrder_entries, entriesLE_flatMap ns h]

/-- **Every BootOrder value, whatever its length** (F35 repair; false before it for every odd
    length, where a last name was made up from the trailing byte and a zero filler): the decoded
    names are exactly the firmware names of the complete little-endian 16-bit entries
    (`Spec.entriesLE`, Model/Boot.lean), in order — `bs.length / 2` of them, so a trailing single
    byte adds none. -/
theorem C18_names_every (bs : Bytes) :
    Impl.bootOrder bs = (Spec.entriesLE bs).map Spec.fwBootName ∧
    (Impl.bootOrder bs).length = bs.length / 2 :=
  ⟨bootOrder_entries bs, Impl.bootOrder_length bs⟩

/-- The same without the auxiliary definition: the `k`-th name, for `k < bs.length / 2`, is the
    firmware name of the little-endian 16-bit value at byte offset `2 * k`
    (`le16At b o = byteAt b o + 256 * byteAt b (o + 1)`), and there are no other names. -/
theorem C18_names_positions (bs : Bytes) :
    Impl.bootOrder bs = (List.range (bs.length / 2)).map (fun k => Spec.fwBootName (le16At bs (2 * k))) := by
  rw [bootOrder_entries, entriesLE_eq_range, List.map_map]; rfl

/-- What `Spec.entriesLE` is: `bs.length / 2` values below 65536, the `k`-th one read at byte offset
    `2 * k`; and it inverts the encoding of a list of 16-bit numbers. -/
theorem C18_entries (bs : Bytes) :
    Spec.entriesLE bs = (List.range (bs.length / 2)).map (fun k => le16At bs (2 * k)) ∧
    (Spec.entriesLE bs).length = bs.length / 2 ∧
    (∀ n ∈ Spec.entriesLE bs, n < 65536) ∧
    (∀ ns : List Nat, (∀ n ∈ ns, n < 65536) → Spec.entriesLE (ns.flatMap le16) = ns) :=
  ⟨entriesLE_eq_range bs, entriesLE_length bs, entriesLE_lt bs, entriesLE_flatMap⟩

/-- A single byte behind complete entries is not an entry: it adds no name (F35 repair). -/
theorem C18_trailing_byte (xs : Bytes) (a : UInt8) (h : xs.length % 2 = 0) :
    Impl.bootOrder (xs ++ [a]) = Impl.bootOrder xs :=
  bootOrder_append_single xs a h

/-- The name is "Boot" followed by exactly four upper-case hexadecimal digits
    (`isUpperHex c` is `('0' ≤ c ∧ c ≤ '9') ∨ ('A' ≤ c ∧ c ≤ 'F')`).  The range hypothesis is the
    claim's; the shape holds for every `n`. -/
theorem C18_name_shape (n : Nat) (_h : n < 65536) :
    ∃ a b c d : Char, Spec.fwBootName n = ['B', 'o', 'o', 't', a, b, c, d] ∧
      isUpperHex a ∧ isUpperHex b ∧ isUpperHex c ∧ isUpperHex d :=
  ⟨_, _, _, _, rfl, hexDigitU_upper _, hexDigitU_upper _, hexDigitU_upper _, hexDigitU_upper _⟩

/-- Different boot numbers get different names. -/
theorem C18_name_injective (n m : Nat) (hn : n < 65536) (hm : m < 65536)
    (h : Spec.fwBootName n = Spec.fwBootName m) : n = m :=
  hex4U_inj n m hn hm (List.append_cancel_left h)

/-- Decoding the encoding of a well-formed load option returns it: attributes, path length,
    description and every device-path node; optional data after the end node is ignored. -/
theorem C18_load_option (lo : Impl.LoadOption) (trailing : Bytes) (h : lo.WF) :
    Impl.loadOptionUnmarshal (Spec.encodeLoadOption lo ++ trailing) = .ok lo := by
  obtain ⟨ha, hl, hd, hn⟩ := h
  have hin : Spec.encodeLoadOption lo ++ trailing =
      le32 lo.attrs ++ (le16 lo.pathLen ++ (marshalUtf16 lo.desc ++
        ((lo.nodes.map Spec.encNode).flatten ++ Spec.endNode ++ trailing))) := by
    simp only [Spec.encodeLoadOption, List.append_assoc]
  rw [hin]
  unfold Impl.loadOptionUnmarshal
  simp only [readN_len (n := 4) (le32 lo.attrs) _ rfl, readN_len (n := 2) (le16 lo.pathLen) _ rfl,
    readNullString_marshal lo.desc hd, parseUtf16_marshal lo.desc hd]
  -- the walk succeeds with one unit of fuel per node and one more, so it saw that many headers of 4 bytes:
  -- the fuel of the entry point, one unit per byte and one more, is enough
  have hlen := (Impl.parseDevicePath_spec _ _).of_ok
    (Impl.parseDevicePath_enc lo.nodes hn trailing _ (Nat.lt_succ_self _))
  rw [Impl.parseDevicePath_enc lo.nodes hn trailing _ (by omega)]
  simp only [rd32_le32 _ ha, rd16_le16 _ hl]

/-- A file-path node prints as `File(<path>)`. -/
theorem C18_text_file (p : List Char) : Impl.fileText p = "File(".toList ++ p ++ [')'] := rfl

/-- A GPT hard-drive node prints as
    `HD(<decimal partition>,GPT,<GUID text>,0x<hex start>,0x<hex size>)`, where the GUID text is
    the canonical text (C17) of the signature read as a little-endian EFI_GUID: for a 16-byte
    signature that GUID is well-formed and its wire form is the signature itself. -/
theorem C18_text_hd_gpt (part : Nat) (start size sig : Bytes) :
    Impl.hdText part start size sig 2 =
      "HD(".toList ++ Nat.toDigits 10 part ++ ",GPT,".toList ++ (guidOfWire sig).format ++
        ",0x".toList ++ Nat.toDigits 16 (rd64 start) ++ ",0x".toList ++ Nat.toDigits 16 (rd64 size) ++ [')'] ∧
    (sig.length = 16 → (guidOfWire sig).WF ∧ guidWire (guidOfWire sig) = sig) :=
  ⟨hdText_gpt part start size sig, fun h => ⟨guidOfWire_wf sig h, guidWire_guidOfWire sig h⟩⟩

/-- An MBR hard-drive node prints as `HD(<decimal partition>,MBR,0x<8 hex digits>,0x<hex start>,
    0x<hex size>)`: the 32-bit signature is zero-padded to exactly 8 lower-case hex digits. -/
theorem C18_text_hd_mbr (part : Nat) (start size sig : Bytes) :
    Impl.hdText part start size sig 1 =
      "HD(".toList ++ Nat.toDigits 10 part ++ ",MBR,0x".toList ++ Impl.pad8Hex (rd32 (sig.take 4)) ++
        ",0x".toList ++ Nat.toDigits 16 (rd64 start) ++ ",0x".toList ++ Nat.toDigits 16 (rd64 size) ++ [')'] ∧
    (Impl.pad8Hex (rd32 (sig.take 4))).length = 8 ∧
    (∀ c ∈ Impl.pad8Hex (rd32 (sig.take 4)), isLowerHex c = true) ∧
    (∀ n, n < 2^32 → (Impl.pad8Hex n).length = 8) :=
  ⟨hdText_mbr part start size sig, pad8Hex_length _ (rd32_lt _), pad8Hex_lower _, pad8Hex_length⟩

/-! ### non-vacuity: concrete values meeting the hypotheses -/

/-- a load option with one node of every supported kind is well-formed, and (instance of the
    theorem) decodes to itself with trailing optional data ignored -/
example : (⟨1, 116, "Linux é".toList,
    [.pci [1, 1, 6, 0] 0 0x1f,
     .acpi [2, 1, 12, 0] [0xd0, 0x41, 0x03, 0x0a] [0, 0, 0, 0],
     .hd [4, 1, 42, 0] 1 (le64 2048) (le64 1048576) (zeros 15 ++ [7]) 2 2,
     .file [4, 4, 10, 0] "\\EFI\\x".toList,
     .fwfile [4, 6, 20, 0] (zeros 16),
     .usb [3, 5, 6, 0] 2 0]⟩ : Impl.LoadOption).WF := by decide +kernel
example : Impl.loadOptionUnmarshal (Spec.encodeLoadOption
    ⟨1, 116, "Linux é".toList,
      [.pci [1, 1, 6, 0] 0 0x1f, .file [4, 4, 10, 0] "\\EFI\\x".toList, .usb [3, 5, 6, 0] 2 0]⟩ ++ [0xde, 0xad]) =
    .ok ⟨1, 116, "Linux é".toList,
      [.pci [1, 1, 6, 0] 0 0x1f, .file [4, 4, 10, 0] "\\EFI\\x".toList, .usb [3, 5, 6, 0] 2 0]⟩ :=
  C18_load_option _ _ (by decide +kernel)
example : ¬ (Impl.Node.generic [1, 9, 4, 0]).WF := by decide
/-- the encoder's bytes for a small option, spelled out -/
example : Spec.encodeLoadOption ⟨1, 6, ['A'], [.usb [3, 5, 6, 0] 2 0]⟩ =
    [1, 0, 0, 0, 6, 0, 0x41, 0, 0, 0, 3, 5, 6, 0, 2, 0, 0x7f, 0xff, 4, 0] := by decide +kernel
example : Impl.bootOrder [0x01, 0x00, 0x1a, 0x2b] = ["Boot0001".toList, "Boot2B1A".toList] := by decide +kernel
/-- odd lengths (F35): `17 00 61 00 ab` names Boot0017 and Boot0061 and nothing else; a single byte names nothing -/
example : Impl.bootOrder [0x17, 0x00, 0x61, 0x00, 0xab] = ["Boot0017".toList, "Boot0061".toList] := by decide +kernel
example : Impl.bootOrder [0xab] = [] := by decide
example : Spec.entriesLE [0x17, 0x00, 0x61, 0x00, 0xab] = [0x17, 0x61] := by decide
example : String.ofList (Spec.fwBootName 0xBEEF) = "BootBEEF" := by decide +kernel
example : String.ofList (Impl.hdText 1 (le64 2048) (le64 4096) [0x78, 0x56, 0x34, 0x12] 1)
    = "HD(1,MBR,0x12345678,0x800,0x1000)" := by decide +kernel
example : String.ofList (Impl.hdText 2 (le64 2048) (le64 4096)
      [0x61, 0xdf, 0xe4, 0x8b, 0xca, 0x93, 0xd2, 0x11, 0xaa, 0x0d, 0x00, 0xe0, 0x98, 0x03, 0x2b, 0x8c] 2)
    = "HD(2,GPT,8be4df61-93ca-11d2-aa0d-00e098032b8c,0x800,0x1000)" := by decide +kernel
example : String.ofList (Impl.pad8Hex 0x1f) = "0000001f" := by decide

#print axioms C18_names
#print axioms C18_names_list
#print axioms C18_names_every
#print axioms C18_names_positions
#print axioms C18_entries
#print axioms C18_trailing_byte
#print axioms C18_name_shape
#print axioms C18_name_injective
#print axioms C18_load_option
#print axioms C18_text_file
#print axioms C18_text_hd_gpt
#print axioms C18_text_hd_mbr

end GoUefi.C18

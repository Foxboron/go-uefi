import GoUefi.Lemmas.SigDb
/-!
# C08 — the signature-database decoder is strict

`Impl.readDb` (model of `ReadSignatureDatabase` / `ReadSignatureList` / `ReadSignatureData`, see
`GoUefi/Model/SigDb.lean`) against the specification codec `GoUefi.Spec` (UEFI 2.8 §32.4.1, see
`GoUefi/Spec/SigDb.lean`).  Only the property theorems and their non-vacuity examples live here;
all helper lemmas are in `GoUefi/Lemmas/SigDb.lean`.
-/
namespace GoUefi.C08
open GoUefi

/-- Specification sanity, encode then decode.  PARTIAL: `∀ l ∈ ls, l.WF` alone does not suffice.
    `Spec.SList.WF` bounds `listSize` by 2^32 but that says nothing about the `size` field of a
    list *without entries*, whose 4-byte encoding then wraps (counterexample below).  The extra
    conjunct `l.size < 2^32` is exactly what is missing; every decoded value has it
    (`Spec_encode_decode`). -/
theorem Spec_decode_encode_partial {ls : List Spec.SList}
    (h : ∀ l ∈ ls, l.WF ∧ l.size < 2^32) : Spec.decodeDb (Spec.encDb ls) = some ls :=
  Spec.decodeDb_enc ls h

/-- with `WF` alone the statement is false: an entry-less list with a 33-bit `size` -/
example : ∃ ls : List Spec.SList, (∀ l ∈ ls, l.WF) ∧ Spec.decodeDb (Spec.encDb ls) ≠ some ls :=
  ⟨[⟨List.replicate 16 0, [], 2^32 + 16, []⟩],
   List.forall_mem_singleton.mpr ⟨by decide, by decide, by decide, fun _ h => nomatch h⟩,
   by decide +kernel⟩

/-- Specification sanity, decode then encode: whatever decodes re-encodes to the input, and is
    well formed (with every field inside its 32 bits). -/
theorem Spec_encode_decode {bs : Bytes} {ls : List Spec.SList} (h : Spec.decodeDb bs = some ls) :
    Spec.encDb ls = bs ∧ ∀ l ∈ ls, l.WF ∧ l.size < 2^32 :=
  Spec.decodeDb_ok h

/-- Decoding succeeds only if the whole input is consumed as well-formed lists with
    `ListSize = 28 + HeaderSize + count·Size` (`HeaderSize = 0`), `Size ≥ 16`, SHA-256 lists of
    `Size` exactly 48; the returned database is exactly what the specification's layout defines,
    and it re-encodes to the input byte for byte. -/
theorem C08_strict {bs : Bytes} {db : Impl.Db} (h : Impl.readDb bs = some db) :
    Spec.decodeDb bs = some (db.map Impl.SList.toSpec) ∧
    (∀ l ∈ db, l.listSize = 28 + l.sigs.length * l.size ∧ l.hdrSize = 0 ∧ l.hdr = [] ∧
       16 ≤ l.size ∧ (l.type = Impl.guidSha256 → l.size = 48)) ∧
    Impl.encDb db = bs := by
  obtain ⟨e, w⟩ := Impl.readDb_ok h
  refine ⟨Impl.readDb_decodeDb h, ?_, e.symm⟩
  intro l hl
  obtain ⟨⟨_, hH, hhdr, hS, hLS, _⟩, _, _, hh⟩ := w l hl
  exact ⟨hLS, hH, hhdr, hS, (Impl.handled_iff.mp hh).2.2.1⟩

/-- An empty database is returned for the empty input only (no error is swallowed). -/
theorem C08_no_silent_empty {bs : Bytes} (h : Impl.readDb bs = some []) : bs = [] :=
  (Impl.readDb_ok h).1

/-- A proper prefix `p` of a well-formed stream decodes only if the cut is at a list boundary:
    then `p` is the encoding of the first `k` lists (`k` strictly less than the number of lists)
    and those are what is returned. -/
theorem C08_truncation {bs p q : Bytes} {ls : List Spec.SList} {db : Impl.Db}
    (h : Spec.decodeDb bs = some ls) (hpq : p ++ q = bs) (hq : q ≠ [])
    (hp : Impl.readDb p = some db) :
    ∃ k, k < ls.length ∧ p = Spec.encDb (ls.take k) ∧ db.map Impl.SList.toSpec = ls.take k := by
  obtain ⟨e, w⟩ := Spec.decodeDb_ok h
  obtain ⟨e', w'⟩ := Spec.decodeDb_ok (Impl.readDb_decodeDb hp)
  obtain ⟨h1, h2⟩ :=
    Spec.encDb_prefix (db.map Impl.SList.toSpec) ls q w' w (by rw [e', hpq, e])
  refine ⟨(db.map Impl.SList.toSpec).length, Nat.lt_of_not_le fun hge => hq ?_, by rw [← h1, e'], h1⟩
  -- had all lists been read, nothing would be left behind the cut
  rw [h2, List.drop_eq_nil_of_le hge]
  rfl

/-- Contrapositive reading: a cut that is not at a list boundary is rejected. -/
theorem C08_truncation_rejects {bs p q : Bytes} {ls : List Spec.SList}
    (h : Spec.decodeDb bs = some ls) (hpq : p ++ q = bs)
    (hcut : ∀ k ≤ ls.length, p ≠ Spec.encDb (ls.take k)) : Impl.readDb p = none := by
  cases hp : Impl.readDb p with
  | none => rfl
  | some db =>
    have hq : q ≠ [] := by
      intro hq
      rw [hq, List.append_nil] at hpq
      apply hcut ls.length (Nat.le_refl _)
      rw [List.take_length, (Spec.decodeDb_ok h).1, hpq]
    obtain ⟨k, hk, e, _⟩ := C08_truncation h hpq hq hp
    exact absurd e (hcut k (Nat.le_of_lt hk))

/-! ### non-vacuity: a concrete two-list stream (`Ex.bytes`, 144 bytes) -/

/-- the hypothesis of `C08_strict` holds for a non-trivial input … -/
example : Impl.readDb Ex.bytes = some Ex.db := Ex.readDb_bytes
/-- … of the expected length -/
example : Ex.bytes.length = 144 := by decide +kernel
/-- a stream with a 4-byte tail missing is rejected, so is one with a trailing byte -/
example : Impl.readDb (Ex.bytes.take 140) = none := by decide +kernel
example : Impl.readDb (Ex.bytes ++ [0]) = none := by decide +kernel
/-- the hypotheses of `C08_truncation` hold with the cut after the first list (76 bytes) -/
example : Spec.decodeDb Ex.bytes = some (Ex.db.map Impl.SList.toSpec) ∧
    Ex.bytes.take 76 ++ Ex.bytes.drop 76 = Ex.bytes ∧ Ex.bytes.drop 76 ≠ [] ∧
    Impl.readDb (Ex.bytes.take 76) = some [Ex.shaList] :=
  ⟨Ex.decodeDb_bytes, List.take_append_drop .., by decide +kernel, Ex.readDb_prefix⟩
/-- the hypothesis of `Spec_decode_encode_partial` holds for that database -/
example : ∀ l ∈ Ex.db.map Impl.SList.toSpec, l.WF ∧ l.size < 2^32 :=
  (Spec_encode_decode (C08_strict Ex.readDb_bytes).1).2

end GoUefi.C08

#print axioms GoUefi.C08.Spec_decode_encode_partial
#print axioms GoUefi.C08.Spec_encode_decode
#print axioms GoUefi.C08.C08_strict
#print axioms GoUefi.C08.C08_no_silent_empty
#print axioms GoUefi.C08.C08_truncation
#print axioms GoUefi.C08.C08_truncation_rejects

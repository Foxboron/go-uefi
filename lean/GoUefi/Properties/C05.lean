import GoUefi.Lemmas.Pkcs7Sign
/-!
# C05 — what `SignPKCS7` produces is parsed back exactly, verifies, and is accepted by the spec

Models: `GoUefi/Model/Pkcs7.lean` (pkcs7/pkcs7.go), `GoUefi/Model/Der.lean` (cryptobyte),
`GoUefi/Spec/Cms.lean` (RFC 2315/5652 verifier). Helper lemmas, the inputs record `SignInputs` and
its well-formedness predicate `SignInputs.WF`: `GoUefi/Lemmas/Pkcs7Sign.lean`; DER builder/reader
round trips: `GoUefi/Lemmas/Der.lean`.

`SignInputs.WF x certsOk` says: `oidArcsOk x.oid` (`validOID`, `40·a+b < 2^31`, every further arc
`< 2^31`); the encoded OID, `content`, `certRaw`, `issuerRaw`, `md`, `sig` and the serial number's
bytes are each shorter than 2^24 (so every nested DER length stays below 2^32); `issuerRaw` is one
SEQUENCE element; `parseUTC time = some time`; `certsOk certRaw`.
-/
namespace GoUefi.C05
open GoUefi GoUefi.Der GoUefi.Impl

/-- `sortEnc` (the stable sort of the attribute encodings in `Attributes.Marshal`, F19) rearranges
    its input: nothing is added, dropped or duplicated. -/
theorem C05_sortEnc_perm (l : List Bytes) : (sortEnc l).Perm l := sortEnc_perm l

/-- The result of `sortEnc` is in non-decreasing `bytes.Compare` order (`bytesLt b a = false` is
    `bytes.Compare a b ≤ 0`): the DER SET OF order. -/
theorem C05_sortEnc_sorted (l : List Bytes) :
    (sortEnc l).Pairwise (fun a b => bytesLt b a = false) := sortEnc_sorted l

/-- The body that `Attributes.Marshal` writes for the attributes `SignPKCS7` builds is exactly the
    three attributes contentType(oid), signingTime(time), messageDigest(md) — each once, nothing
    else — in DER SET OF order.  (That `SignPKCS7` embeds this body: `C05_signed_bytes`.) -/
theorem C05_signed_attrs_der_order (oid : List Nat) (time md : Bytes) (hv : validOID oid = true) :
    ∃ l : List Bytes, attrsBody { contentType := some oid, md := md, time := some time } = some l.flatten ∧
      l.Perm [attrSeq oidContentType (oidOr oid), attrSeq oidSigningTime (addASN1 tUTC time),
              attrSeq oidMessageDigest (addOctets md)] ∧
      l.Pairwise (fun a b => bytesLt b a = false) :=
  ⟨_, attrsBody_signed_iff.mpr ⟨hv, rfl⟩, sortEnc_perm _, sortEnc_sorted _⟩

/-- The signature input (`Attributes.Marshal`) is the DER SET OF whose body is the three attributes
    contentType(oid), signingTime(time), messageDigest(md), sorted by their encodings; and the bytes
    `SignPKCS7` writes end with exactly that body under the `[0]` tag, followed by the signature
    algorithm and the signature. Re-tagging the `[0]` element as SET (0x31) gives the signature input. -/
theorem C05_signed_bytes (oid : List Nat) (content certRaw issuerRaw : Bytes) (serial : Nat)
    (time md sig : Bytes) (hv : validOID oid = true) :
    attrsBody { contentType := some oid, md := md, time := some time } =
      some (sortEnc [attrSeq oidContentType (oidOr oid), attrSeq oidSigningTime (addASN1 tUTC time),
            attrSeq oidMessageDigest (addOctets md)]).flatten ∧
    ∀ ab', attrsBody { contentType := some oid, md := md, time := some time } = some ab' →
      (∃ pre, signPKCS7 oid content certRaw issuerRaw serial time md sig =
        some (pre ++ (addASN1 tCtx0 ab' ++
          (addASN1 tSEQ (oidOr oidRsa ++ addNULL) ++ addOctets sig)))) ∧
      (0x31 : UInt8) :: (addASN1 tCtx0 ab').drop 1 = addASN1 tSET ab' := by
  refine ⟨attrsBody_signed_iff.mpr ⟨hv, rfl⟩, ?_⟩
  intro ab' hab
  refine ⟨?_, rfl⟩
  obtain ⟨pre, hpre⟩ := signedBlob_suffix oid content certRaw issuerRaw serial ab' sig
  exact ⟨pre, by rw [signPKCS7_eq, hab, Option.map_some, ← hpre]⟩

/-- For inputs whose write order (contentType, signingTime, messageDigest) is already the sorted one —
    e.g. the usual short content-type OIDs with a SHA-256 digest — the body is the concatenation in
    write order (what `Marshal` wrote for every input before the repair F19). -/
theorem C05_signed_bytes_partial (oid : List Nat) (time md : Bytes) (hv : validOID oid = true)
    (hs : sortEnc [attrSeq oidContentType (oidOr oid), attrSeq oidSigningTime (addASN1 tUTC time),
            attrSeq oidMessageDigest (addOctets md)] =
          [attrSeq oidContentType (oidOr oid), attrSeq oidSigningTime (addASN1 tUTC time),
            attrSeq oidMessageDigest (addOctets md)]) :
    attrsBody { contentType := some oid, md := md, time := some time } =
      some (attrSeq oidContentType (oidOr oid) ++ attrSeq oidSigningTime (addASN1 tUTC time) ++
            attrSeq oidMessageDigest (addOctets md)) := by
  rw [attrsBody_signed_iff.mpr ⟨hv, rfl⟩]
  unfold signedAttrsBody
  rw [hs]
  simp

/-- The library's own parser recovers, from the bytes `SignPKCS7` produced, the same content
    type, content (as the SEQUENCE-wrapped `[0]` body, empty when nothing is encapsulated),
    certificate, issuer, serial number, signature and signed attributes; the attributes keep the
    transmitted bytes `raw` = SET OF `ab'`. -/
theorem C05_own_parser (x : SignInputs) (certsOk : Bytes → Bool) (h : x.WF certsOk)
    (blob ab' : Bytes)
    (hab : attrsBody { contentType := some x.oid, md := x.md, time := some x.time } = some ab')
    (hs : signPKCS7 x.oid x.content x.certRaw x.issuerRaw x.serial x.time x.md x.sig = some blob) :
    parseP7 certsOk blob = some
      (⟨x.oid,
        (if x.content.length > 0 && x.oid != oidData then addASN1 tSEQ x.content else []),
        some x.certRaw,
        [⟨1, x.issuerRaw, x.serial,
          some { contentType := some x.oid, md := x.md, time := some x.time, other := [],
                 raw := some (addASN1 tSET ab') },
          x.sig⟩]⟩ : P7) := by
  obtain ⟨rfl, rfl⟩ := x.eq_of_sign hab hs
  exact parseP7_blob_wf x certsOk h

/-- The parsed value verifies against the signing certificate: if the RSA signature is valid over
    SET OF `ab'` and the messageDigest attribute is SHA-256 of the content, `PKCS7.Verify` returns
    true (for attached content it hashes the value octets of `p.content`, i.e. `content`). -/
theorem C05_own_verify (C : Crypto) (c : Cert) (x : SignInputs) (certsOk : Bytes → Bool)
    (h : x.WF certsOk) (blob ab' : Bytes) (p : P7)
    (hab : attrsBody { contentType := some x.oid, md := x.md, time := some x.time } = some ab')
    (hs : signPKCS7 x.oid x.content x.certRaw x.issuerRaw x.serial x.time x.md x.sig = some blob)
    (hp : parseP7 certsOk blob = some p)
    (hi : c.rawIssuer = x.issuerRaw) (hser : c.serial = (x.serial : Int))
    (hsig : C.rsaVerify c.pub (addASN1 tSET ab') x.sig = true)
    (hmd : x.md = C.sha256 x.content) :
    p.verify C c = .ok true := by
  obtain ⟨rfl, rfl⟩ := x.eq_of_sign hab hs
  rw [parseP7_blob_wf x certsOk h, Option.some.injEq] at hp
  subst hp
  exact verify_parsed C c x hi hser (by have := h.contentLen; omega) hsig hmd

/-- The RFC-style specification accepts the produced bytes for the signing certificate: with the
    content encapsulated no detached content is supplied, otherwise the caller supplies `content`. -/
theorem C05_spec_accepts (C : Crypto) (c : Cert) (x : SignInputs) (certsOk : Bytes → Bool)
    (h : x.WF certsOk) (blob ab' : Bytes)
    (hab : attrsBody { contentType := some x.oid, md := x.md, time := some x.time } = some ab')
    (hs : signPKCS7 x.oid x.content x.certRaw x.issuerRaw x.serial x.time x.md x.sig = some blob)
    (hi : c.rawIssuer = x.issuerRaw) (hser : c.serial = (x.serial : Int))
    (hsig : C.rsaVerify c.pub (addASN1 tSET ab') x.sig = true)
    (hmd : x.md = C.sha256 x.content) :
    Spec.cmsVerify C blob c
      (if x.content.length > 0 && x.oid != oidData then none else some x.content) = true := by
  obtain ⟨rfl, rfl⟩ := x.eq_of_sign hab hs
  exact cmsVerify_blob C c x certsOk h hi hser hsig hmd

/-! ### non-vacuity: concrete values meeting the hypotheses -/

open SignInputs (sample sampleData)

theorem sample_wf : sample.WF (fun _ => true) :=
  ⟨by decide, by decide, by decide, by decide, by decide, by decide, by decide, by decide,
   ⟨[], by decide⟩, by decide, rfl⟩
example : sample.WF (fun _ => true) := sample_wf
example : sampleData.WF (fun _ => true) :=
  ⟨by decide, by decide, by decide, by decide, by decide, by decide, by decide, by decide,
   ⟨[], by decide⟩, by decide, rfl⟩
example : (signPKCS7 sample.oid sample.content sample.certRaw sample.issuerRaw sample.serial
    sample.time sample.md sample.sig).isSome = true := by decide
example : signPKCS7 sample.oid sample.content sample.certRaw sample.issuerRaw sample.serial
    sample.time sample.md sample.sig = some sample.blob := signPKCS7_blob sample (by decide)
example : (attrsBody { contentType := some sample.oid, md := sample.md, time := some sample.time }).isSome
    = true := by decide
/-- the conclusions, evaluated on the concrete inputs (attached and detached) -/
example : parseP7 (fun _ => true) sample.blob = some sample.parsed := by decide +kernel
example : parseP7 (fun _ => true) sampleData.blob = some sampleData.parsed := by decide +kernel
example : sample.parsed.content = addASN1 tSEQ [1, 2, 3] ∧ sampleData.parsed.content = [] := by decide
/-- the crypto hypotheses are satisfiable: a `Crypto` whose digest of the content is `md` -/
example : ∃ (C : Crypto) (c : Cert), c.rawIssuer = sample.issuerRaw ∧ c.serial = (sample.serial : Int) ∧
    (∀ m, C.rsaVerify c.pub m sample.sig = true) ∧ sample.md = C.sha256 sample.content :=
  ⟨⟨fun _ => [9, 9], fun _ _ _ => true⟩, ⟨[0x30, 0], 0x1234, ⟨1, 1⟩⟩, rfl, rfl, fun _ => rfl, rfl⟩
/-- `C05_spec_accepts` applies: the specification accepts the concrete blob when the digest matches;
    and by its verdict equation it rejects the blob when the messageDigest attribute differs from the
    digest of the content (the spec is not trivially true) -/
example : Spec.cmsVerify ⟨fun _ => [9, 9], fun _ _ _ => true⟩ sample.blob ⟨[0x30, 0], 0x1234, ⟨1, 1⟩⟩ none
    = true :=
  C05_spec_accepts _ _ sample _ sample_wf _ _ (attrsBody_signed_iff.mpr ⟨by decide, rfl⟩)
    (signPKCS7_blob sample (by decide)) rfl rfl rfl rfl
example : Spec.cmsVerify ⟨fun _ => [8, 8], fun _ _ _ => true⟩ sample.blob ⟨[0x30, 0], 0x1234, ⟨1, 1⟩⟩ none
    = false := by
  rw [cmsVerify_blob_eq _ _ sample _ sample_wf]
  decide
example : sample.parsed.verify ⟨fun _ => [9, 9], fun _ _ _ => true⟩ ⟨[0x30, 0], 0x1234, ⟨1, 1⟩⟩ = .ok true := by
  decide +kernel
/-- DER order vs. write order, with the signing time "260929203000Z" and a 32-byte digest.  For the
    short content type id-data the write order (contentType, signingTime, messageDigest) is already
    the sorted one; for a long content-type OID the contentType attribute is longer than the
    signingTime attribute and sorts after it: the sorted order differs from the write order. -/
example : sortEnc [attrSeq oidContentType (oidOr oidData), attrSeq oidSigningTime (addASN1 tUTC sample.time),
      attrSeq oidMessageDigest (addOctets (List.replicate 32 0xab))] =
    [attrSeq oidContentType (oidOr oidData), attrSeq oidSigningTime (addASN1 tUTC sample.time),
      attrSeq oidMessageDigest (addOctets (List.replicate 32 0xab))] := by decide +kernel
example : sortEnc [attrSeq oidContentType (oidOr [1, 3, 6, 1, 4, 1, 311, 21, 8, 8000000, 9000000]),
      attrSeq oidSigningTime (addASN1 tUTC sample.time),
      attrSeq oidMessageDigest (addOctets (List.replicate 32 0xab))] ≠
    [attrSeq oidContentType (oidOr [1, 3, 6, 1, 4, 1, 311, 21, 8, 8000000, 9000000]),
      attrSeq oidSigningTime (addASN1 tUTC sample.time),
      attrSeq oidMessageDigest (addOctets (List.replicate 32 0xab))] := by decide +kernel
/-- there it is signingTime, contentType, messageDigest -/
example : sortEnc [attrSeq oidContentType (oidOr [1, 3, 6, 1, 4, 1, 311, 21, 8, 8000000, 9000000]),
      attrSeq oidSigningTime (addASN1 tUTC sample.time),
      attrSeq oidMessageDigest (addOctets (List.replicate 32 0xab))] =
    [attrSeq oidSigningTime (addASN1 tUTC sample.time),
      attrSeq oidContentType (oidOr [1, 3, 6, 1, 4, 1, 311, 21, 8, 8000000, 9000000]),
      attrSeq oidMessageDigest (addOctets (List.replicate 32 0xab))] := by decide +kernel
/-- so the hypothesis `hs` of `C05_signed_bytes_partial` cannot be dropped: a valid OID, yet the body
    is not the concatenation in write order -/
example : validOID [1, 3, 6, 1, 4, 1, 311, 21, 8, 8000000, 9000000] = true ∧
    attrsBody { contentType := some [1, 3, 6, 1, 4, 1, 311, 21, 8, 8000000, 9000000],
                md := List.replicate 32 0xab, time := some sample.time } ≠
      some (attrSeq oidContentType (oidOr [1, 3, 6, 1, 4, 1, 311, 21, 8, 8000000, 9000000]) ++
            attrSeq oidSigningTime (addASN1 tUTC sample.time) ++
            attrSeq oidMessageDigest (addOctets (List.replicate 32 0xab))) := by decide +kernel
/-- the long OID meets the hypotheses of the round-trip theorems as well -/
example : ({ sample with oid := [1, 3, 6, 1, 4, 1, 311, 21, 8, 8000000, 9000000],
                         md := List.replicate 32 0xab } : SignInputs).WF (fun _ => true) :=
  ⟨by decide +kernel, by decide +kernel, by decide, by decide, by decide, by decide, by decide, by decide,
   ⟨[], by decide⟩, by decide, rfl⟩
example : let x : SignInputs := { sample with oid := [1, 3, 6, 1, 4, 1, 311, 21, 8, 8000000, 9000000],
                                              md := List.replicate 32 0xab }
    parseP7 (fun _ => true) x.blob = some x.parsed := by decide +kernel
/-- an invalid content-type OID makes the builder fail (the Go code panics): the hypothesis
    `signPKCS7 … = some blob` is not automatic -/
example : signPKCS7 [3, 1] [] [] [] 0 [] [] [] = none := by decide

#print axioms C05_sortEnc_perm
#print axioms C05_sortEnc_sorted
#print axioms C05_signed_attrs_der_order
#print axioms C05_signed_bytes
#print axioms C05_signed_bytes_partial
#print axioms C05_own_parser
#print axioms C05_own_verify
#print axioms C05_spec_accepts

end GoUefi.C05

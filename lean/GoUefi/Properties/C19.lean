import GoUefi.Model.Pure
/-!
# C19 — read-only operations are pure, repeatable and schedule-independent

Frame theorems for every read-only method of the model (the state after the call is the state
before), repeatability for arbitrary call sequences, schedule independence for threads whose
atomic steps only read the shared object, and — so that the distinction is not vacuous — the
kernel-checked failure of the same statements for the two realistic regressions (walking the
certificate table with `Next`, a pointer receiver on the signed-update wrapper).
Which buffer methods the Go methods call, and with which receiver kind, is re-extracted from the
source on every run: Properties/C19x.lean.
-/
namespace GoUefi.C19
open GoUefi GoUefi.Impl

/-- Hash, Bytes/Open, Signatures and Verify leave the parsed image (certificate table buffer
    included) exactly as it was -/
theorem C19_frame_image (C : Crypto) (ok : Bytes → Bool) (c : Cert) (s : ImgSt) :
    (s.hash C).1 = s ∧ s.bytesOut.1 = s ∧ s.signatures.1 = s ∧ (s.verify C ok c).1 = s :=
  ⟨rfl, rfl, rfl, rfl⟩

/-- Bytes/Marshal and the membership queries leave the database as it was -/
theorem C19_frame_database (db : Db) (t o d : Bytes) (sigs : List SData) :
    (dbBytes db).1 = db ∧ (dbHas t o d db).1 = db ∧ (dbHasAll t sigs db).1 = db :=
  ⟨rfl, rfl, rfl⟩

/-- Marshal/Bytes of the signed-update value (value receiver) leave it as it was, and return the
    whole unread content -/
theorem C19_frame_update (s : Buffer) : (updMarshal s).1 = s ∧ (updMarshal s).2 = s.bytes :=
  ⟨rfl, rfl⟩

/-- a read-only operation on a state type `St` -/
structure ReadOp (St R : Type) where
  run : St → St × R
  frame : ∀ s, (run s).1 = s

/-- any sequence of read-only operations: every result equals the result on the initial state,
    and the final state is the initial state -/
theorem C19_repeatable {St R : Type} (ops : List (ReadOp St R)) (s : St) :
    (ops.foldl (fun (acc : St × List R) op => ((op.run acc.1).1, acc.2 ++ [(op.run acc.1).2])) (s, [])) =
      (s, ops.map fun op => (op.run s).2) := by
  suffices h : ∀ (pre : List R), ops.foldl (fun (acc : St × List R) op => ((op.run acc.1).1, acc.2 ++ [(op.run acc.1).2])) (s, pre) =
      (s, pre ++ ops.map fun op => (op.run s).2) by simpa using h []
  induction ops with
  | nil => intro pre; simp
  | cons op ops ih =>
    intro pre
    simp only [List.foldl_cons, List.map_cons]
    rw [op.frame s, ih]
    simp

/-- the concrete image methods as `ReadOp`s, so that `C19_repeatable` applies to them -/
def imageOps (C : Crypto) (ok : Bytes → Bool) (c : Cert) : List (ReadOp ImgSt String) := [
  ⟨fun s => (s, toString (repr (s.hash C).2)), fun _ => rfl⟩,
  ⟨fun s => (s, toString (repr s.bytesOut.2)), fun _ => rfl⟩,
  ⟨fun s => (s, toString (repr s.signatures.2)), fun _ => rfl⟩,
  ⟨fun s => (s, toString (repr (s.verify C ok c).2)), fun _ => rfl⟩]

theorem forall_mem_modify {α} {P : α → Prop} {f : α → α} (hf : ∀ a, P a → P (f a)) :
    ∀ (l : List α) (i : Nat), (∀ a ∈ l, P a) → ∀ a ∈ l.modify i f, P a
  | [], _, _ => by simp
  | a :: l, 0, h => by
    simp only [List.modify_zero_cons, List.forall_mem_cons] at h ⊢
    exact ⟨hf a h.1, h.2⟩
  | a :: l, i + 1, h => by
    simp only [List.modify_succ_cons, List.forall_mem_cons] at h ⊢
    exact ⟨h.1, forall_mem_modify hf l i h.2⟩

theorem thread_step_pc {S L} (s : S) (t : Thread S L)
    (h : t.loc = t.inv.runPrefix s t.pc ∧ t.pc ≤ t.inv.steps.length) :
    (t.step s).loc = (t.step s).inv.runPrefix s (t.step s).pc ∧
      (t.step s).pc ≤ (t.step s).inv.steps.length := by
  unfold Thread.step
  cases hg : t.inv.steps[t.pc]? with
  | none => exact h
  | some f =>
    obtain ⟨hlt, _⟩ := List.getElem?_eq_some_iff.1 hg
    refine ⟨?_, hlt⟩
    show f s t.loc = _
    simp only [Invocation.runPrefix, List.take_add_one, hg, Option.toList_some, List.foldl_append]
    rw [h.1]
    rfl

/-- schedule independence: under EVERY schedule (any interleaving, any length) each invocation's
    local value is what sequential execution of its completed steps gives; in particular every
    invocation that ran to completion holds exactly its sequential result, whatever the other
    threads did in between -/
theorem C19_schedules {S L} (s : S) (is : List (Invocation S L)) (sched : List Nat) :
    ∀ t ∈ runSchedule s (startThreads is) sched,
      t.loc = t.inv.runPrefix s t.pc ∧ (t.pc = t.inv.steps.length → t.loc = t.inv.result s) := by
  -- the invariant every schedule preserves, thread by thread: the local value is the sequential
  -- result of the steps executed so far
  have hall : ∀ (ts : List (Thread S L)),
      (∀ t ∈ ts, t.loc = t.inv.runPrefix s t.pc ∧ t.pc ≤ t.inv.steps.length) →
      ∀ t ∈ runSchedule s ts sched, t.loc = t.inv.runPrefix s t.pc ∧ t.pc ≤ t.inv.steps.length := by
    induction sched with
    | nil => exact fun ts h => h
    | cons i sched ih => exact fun ts h => ih _ (forall_mem_modify (thread_step_pc s) ts i h)
  intro t ht
  have := hall (startThreads is) (by
    intro t ht
    obtain ⟨i, _, rfl⟩ := List.mem_map.1 ht
    exact ⟨rfl, Nat.zero_le _⟩) t ht
  exact ⟨this.1, fun hp => by rw [this.1, hp]; rfl⟩

/-! ### the two realistic regressions really break the statements (so the frame theorems say something) -/

/-- walking the certificate table with a consuming read: the second call sees an empty table -/
theorem C19_consuming_signatures_breaks :
    ∃ s : ImgSt, (s.signaturesConsuming.1 ≠ s) ∧ (s.signaturesConsuming.1.signaturesConsuming.2 ≠ s.signaturesConsuming.2) := by
  refine ⟨⟨⟨0, 0, [], 0, 0, [], [], [], [], true⟩,
    ⟨[16, 0, 0, 0, 0, 2, 2, 0, 1, 2, 3, 4, 5, 6, 7, 8], 0⟩⟩, ?_, ?_⟩ <;> decide +kernel

/-- a pointer receiver on the signed-update wrapper: the second Marshal returns nothing -/
theorem C19_pointer_receiver_breaks :
    ∃ s : Buffer, (updMarshalPtr s).1 ≠ s ∧ (updMarshalPtr (updMarshalPtr s).1).2 ≠ (updMarshalPtr s).2 := by
  refine ⟨⟨[1, 2, 3], 0⟩, ?_, ?_⟩ <;> decide +kernel

/-! ### non-vacuity -/
example : (updMarshal ⟨[1, 2, 3], 1⟩).2 = [2, 3] ∧ (updMarshal (updMarshal ⟨[1, 2, 3], 1⟩).1).2 = [2, 3] := by decide +kernel
example : ∀ t ∈ runSchedule (10 : Nat) (startThreads [⟨0, [fun s l => l + s, fun s l => l * s]⟩, ⟨1, [fun s l => l + 2 * s]⟩]) [1, 0, 0, 5, 1],
    t.pc = t.inv.steps.length := by decide +kernel

end GoUefi.C19

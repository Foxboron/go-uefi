import GoUefi.Lemmas.Pkcs7Verify
/-!
# C04 — PKCS#7 verification succeeds only for a valid signature bound to the content

Model: `GoUefi/Model/Pkcs7.lean` (pkcs7/pkcs7.go with the repairs F1–F3 and F13), cryptography abstract
(`GoUefi/Model/Crypto.lean`), specification `GoUefi/Spec/Cms.lean`.  Helper lemmas:
`GoUefi/Lemmas/Pkcs7Verify.lean`; example values `GoUefi.P7Ex`.

"The first signer naming `c`" is `p.signers.find? (fun s => s.isCertificate c)`.
The outcomes of `p.verify C c` are characterised exactly:
`.ok true` ⇔ `C04_verify_iff`; `.ok false` ⇔ no signer names `c` (`C04_ok_false_iff`);
`.panic` only for locally constructed attributes (`C04_panic_only_unparsed`), never after parsing
(`C04_parsed_never_panics`); never `.exit` (`C04_never_exit`); everything else is `.err`.
-/
namespace GoUefi.C04
open GoUefi GoUefi.Impl

/-- The verdict is the verdict of the first matching signer, and a negative answer when there is
    none. -/
theorem C04_verify_eq_first_match (C : Crypto) (p : P7) (c : Cert) :
    p.verify C c =
      match p.signers.find? (fun s => s.isCertificate c) with
      | none => .ok false
      | some s => s.verify C c p.content :=
  verifySigners_eq_find C c p.content p.signers

/-- Exact characterisation of success (`C04_sound` is its left-to-right direction, weakened). -/
theorem C04_verify_iff {C : Crypto} {p : P7} {c : Cert} :
    p.verify C c = .ok true ↔
      ∃ s, p.signers.find? (fun s => s.isCertificate c) = some s ∧
        ∃ a, s.attrs = some a ∧
          (∃ sigdata, (a.raw = some sigdata ∨ (a.raw = none ∧ a.marshal = .ok sigdata)) ∧
            C.rsaVerify c.pub sigdata s.sig = true) ∧
          (p.content ≠ [] →
            ∃ t v r, Der.readAny p.content = some (t, v, r) ∧ C.sha256 v = a.md) := by
  rw [C04_verify_eq_first_match]
  cases hf : p.signers.find? (fun s => s.isCertificate c) with
  | none => exact ⟨nofun, fun ⟨_, h, _⟩ => nomatch h⟩
  | some s =>
    simp only [Option.some.injEq, exists_eq_left']
    exact Signer.verify_ok_true_iff

/-- Verification answers `true` only through the whole chain of commitments: some signer names the
    certificate (issuer bytes and serial), carries signed attributes, the RSA signature under the
    certificate's key is valid over those attributes (as transmitted; re-encoded only for values
    constructed locally, which have no `raw`), and — when content is encapsulated — the
    messageDigest attribute is the SHA-256 of the content's value octets. -/
theorem C04_sound {C : Crypto} {p : P7} {c : Cert} (h : p.verify C c = .ok true) :
    ∃ s ∈ p.signers, s.issuer = c.rawIssuer ∧ s.serial = c.serial ∧
      ∃ a, s.attrs = some a ∧
        (∃ sigdata, (a.raw = some sigdata ∨ (a.raw = none ∧ a.marshal = .ok sigdata)) ∧
          C.rsaVerify c.pub sigdata s.sig = true) ∧
        (p.content ≠ [] →
          ∃ t v r, Der.readAny p.content = some (t, v, r) ∧ C.sha256 v = a.md) := by
  obtain ⟨s, hf, hv⟩ := C04_verify_iff.mp h
  obtain ⟨hi, hs⟩ := isCertificate_iff.mp (by simpa using List.find?_some hf)
  exact ⟨s, List.mem_of_find?_eq_some hf, hi, hs, hv⟩

/-- `C04_verify_eq_first_match` without `List.find?`: the first signer that names the certificate
    decides alone; signers before it do not name the certificate and are skipped, signers after it
    are never looked at. -/
theorem C04_first_matching_signer_decides {C : Crypto} {p : P7} {c : Cert} {pre post : List Signer}
    {s : Signer} (hp : p.signers = pre ++ s :: post)
    (hpre : ∀ x ∈ pre, x.isCertificate c = false) (hs : s.isCertificate c = true) :
    p.verify C c = s.verify C c p.content := by
  have hf : p.signers.find? (fun s => s.isCertificate c) = some s :=
    List.find?_eq_some_iff_append.mpr ⟨hs, pre, post, hp, fun x hx => by simp [hpre x hx]⟩
  rw [C04_verify_eq_first_match, hf]

/-- No signer names the certificate: a negative answer, not an error. -/
theorem C04_no_matching_signer {C : Crypto} {p : P7} {c : Cert}
    (h : ∀ s ∈ p.signers, s.isCertificate c = false) : p.verify C c = .ok false :=
  verifySigners_ok_false_iff.mpr h

/-- … and that is the only way to get a negative answer. -/
theorem C04_ok_false_iff {C : Crypto} {p : P7} {c : Cert} :
    p.verify C c = .ok false ↔ ∀ s ∈ p.signers, s.isCertificate c = false :=
  verifySigners_ok_false_iff

/-- The first signer naming the certificate has no signed attributes: an error (F3), whatever its
    signature and whatever signers follow. -/
theorem C04_no_attrs_is_error {C : Crypto} {p : P7} {c : Cert} {s : Signer}
    (hf : p.signers.find? (fun s => s.isCertificate c) = some s) (ha : s.attrs = none) :
    p.verify C c = .err := by
  rw [C04_verify_eq_first_match, hf]
  exact Signer.verify_no_attrs ha

/-- Content is encapsulated but the messageDigest attribute of the first signer naming the
    certificate is not its SHA-256 (or the content is not a DER element at all): an error (F1),
    whatever the signature. -/
theorem C04_bad_digest_is_error {C : Crypto} {p : P7} {c : Cert} {s : Signer} {a : Attrs}
    (hf : p.signers.find? (fun s => s.isCertificate c) = some s) (ha : s.attrs = some a)
    (hne : p.content ≠ [])
    (hbad : ∀ t v r, Der.readAny p.content = some (t, v, r) → C.sha256 v ≠ a.md) :
    p.verify C c = .err := by
  rw [C04_verify_eq_first_match, hf]
  exact Signer.verify_bad_digest ha hne hbad

/-- The RSA signature of the first signer naming the certificate does not verify over the signed
    attributes: an error, whatever the digest. -/
theorem C04_bad_signature_is_error {C : Crypto} {p : P7} {c : Cert} {s : Signer} {a : Attrs}
    {sigdata : Bytes} (hf : p.signers.find? (fun s => s.isCertificate c) = some s)
    (ha : s.attrs = some a)
    (hd : a.raw = some sigdata ∨ (a.raw = none ∧ a.marshal = .ok sigdata))
    (hbad : C.rsaVerify c.pub sigdata s.sig = false) :
    p.verify C c = .err := by
  rw [C04_verify_eq_first_match, hf]
  exact Signer.verify_bad_signature ha hd hbad

/-- `Verify` never exits the process. -/
theorem C04_never_exit (C : Crypto) (p : P7) (c : Cert) : p.verify C c ≠ .exit :=
  P7.verify_ne_exit C p c

/-- A panic needs attributes that were constructed locally (no `raw`) with an invalid OID. -/
theorem C04_panic_only_unparsed {C : Crypto} {p : P7} {c : Cert} (h : p.verify C c = .panic) :
    ∃ s ∈ p.signers, ∃ a, s.attrs = some a ∧ a.raw = none ∧ attrsBody a = none :=
  P7.verify_panic h

/-- Parsed attributes always carry `raw`, so the panicking branch of `Marshal` is unreachable:
    verifying a parsed blob returns (a verdict or an error). -/
theorem C04_parsed_never_panics {C : Crypto} {ok : Bytes → Bool} {b : Bytes} {p : P7} {c : Cert}
    (h : parseP7 ok b = some p) : p.verify C c ≠ .panic ∧ p.verify C c ≠ .exit :=
  P7.verify_parsed_total c h

/-- The bytes the signature is verified over are literally the `[0]` element that occurs in the
    blob, with only the tag byte replaced by 0x31 (SET): `raw` is the canonical encoding of the
    same body under tag SET, and the canonical encoding under tag `[0]` is a contiguous sub-slice of
    the input — the reader accepts only DER-minimal headers, so nothing is re-encoded. -/
theorem C04_attrs_as_transmitted {ok : Bytes → Bool} {b : Bytes} {p : P7}
    (h : parseP7 ok b = some p) :
    ∀ s ∈ p.signers, ∀ a, s.attrs = some a →
      ∃ body pre post, a.raw = some (Der.addASN1 Der.tSET body) ∧
        b = pre ++ Der.addASN1 Der.tCtx0 body ++ post := by
  intro s hs a ha
  obtain ⟨body, hraw, ⟨pre, post, hb⟩, _⟩ := parseP7_attrs h hs ha
  exact ⟨body, pre, post, hraw, hb⟩

/-- the two encodings differ in the first byte only -/
theorem C04_retag (body : Bytes) :
    Der.addASN1 Der.tSET body = 0x31 :: (Der.addASN1 Der.tCtx0 body).drop 1 :=
  (addASN1_retag body).symm

/-- Whatever the implementation accepts of a parsed blob, the independent specification
    `Spec.cmsVerify` accepts of the same bytes (nothing detached supplied) — for a digest function
    that never returns the empty string (`hsha`: true of SHA-256, whose digests have 32 bytes).

    Without `hsha` the statement is false for an abstract `Crypto`: a signer *without* a
    messageDigest attribute is parsed with the default `md = []`, which `signerinfo.verify` compares
    with the digest of the content, whereas the specification requires the attribute to be present.
    Counterexample below (`nilC_splits`: `P7Ex.nilC`, `P7Ex.blobNoMd`). -/
theorem C04_refines_spec_partial {C : Crypto} {ok : Bytes → Bool} {b : Bytes} {p : P7} {c : Cert}
    (hsha : ∀ x, C.sha256 x ≠ []) (h : parseP7 ok b = some p) (hv : p.verify C c = .ok true) :
    Spec.cmsVerify C b c none = true :=
  cmsVerify_of_verify hsha h hv

/-! ### non-vacuity: concrete blobs (toy cryptography: digest = identity, a signature is valid
    iff it equals the signed bytes) -/
section Examples
open GoUefi.P7Ex

/-- the sample blob is what the model of `SignPKCS7` writes -/
example : signPKCS7 oid content [] issuer 5 time content (Der.addASN1 Der.tSET body) = some blob := by
  decide +kernel
example : (parseP7 allOk blob).isSome = true := by rw [parse_blob]; rfl
example : run toy blob cert = some (.ok true) := by rw [run, parse_blob]; decide +kernel
example : (parseP7 allOk blob).map (fun p => p.signers.map fun s => s.attrs.map (·.raw)) =
    some [some (some (Der.addASN1 Der.tSET body))] := by rw [parse_blob]; rfl
example : Spec.cmsVerify toy blob cert none = true := by decide +kernel
/-- another certificate (other serial): a negative answer, not an error -/
example : run toy blob otherCert = some (.ok false) := by rw [run, parse_blob]; decide +kernel
example : run toy blobNoAttrs cert = some .err := by decide +kernel
example : run toy blobBadMd cert = some .err := by decide +kernel
example : run toy blobBadSig cert = some .err := by decide +kernel
/-- a value constructed locally with an invalid content-type OID panics (not reachable by parsing) -/
example : (⟨oid, [], none, [⟨1, issuer, 5, some { contentType := some [9] }, []⟩]⟩ : P7).verify
    toy cert = .panic := by decide +kernel
/-- the digest hypothesis of `C04_refines_spec_partial` holds for a toy digest … -/
example : ∀ x, (⟨fun m => 0 :: m, fun _ m s => s == m⟩ : Crypto).sha256 x ≠ [] := by
  intro x; simp
/-- … and cannot be dropped: with the always-empty digest `nilC`, a signer without messageDigest
    attribute is accepted by the implementation and refused by the specification. -/
theorem nilC_splits :
    run nilC blobNoMd cert = some (.ok true) ∧ Spec.cmsVerify nilC blobNoMd cert none = false := by
  decide +kernel
example : run nilC blobNoMd cert = some (.ok true) ∧ Spec.cmsVerify nilC blobNoMd cert none = false :=
  nilC_splits
/-- hence the refinement statement without `hsha` is false -/
example : ¬ ∀ (C : Crypto) (ok : Bytes → Bool) (b : Bytes) (p : P7) (c : Cert),
    parseP7 ok b = some p → p.verify C c = .ok true → Spec.cmsVerify C b c none = true := by
  intro H
  obtain ⟨p, hp, hv⟩ := Option.map_eq_some_iff.mp nilC_splits.1
  exact Bool.false_ne_true (nilC_splits.2.symm.trans (H nilC allOk blobNoMd p cert hp hv))

end Examples

end GoUefi.C04

#print axioms GoUefi.C04.C04_sound
#print axioms GoUefi.C04.C04_first_matching_signer_decides
#print axioms GoUefi.C04.C04_verify_eq_first_match
#print axioms GoUefi.C04.C04_verify_iff
#print axioms GoUefi.C04.C04_no_matching_signer
#print axioms GoUefi.C04.C04_ok_false_iff
#print axioms GoUefi.C04.C04_no_attrs_is_error
#print axioms GoUefi.C04.C04_bad_digest_is_error
#print axioms GoUefi.C04.C04_bad_signature_is_error
#print axioms GoUefi.C04.C04_never_exit
#print axioms GoUefi.C04.C04_panic_only_unparsed
#print axioms GoUefi.C04.C04_parsed_never_panics
#print axioms GoUefi.C04.C04_attrs_as_transmitted
#print axioms GoUefi.C04.C04_retag
#print axioms GoUefi.C04.C04_refines_spec_partial

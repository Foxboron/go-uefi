import GoUefi.Properties.C09g
import GoUefi.Lemmas.GenReaders
import GoUefi.Properties.C08
import GoUefi.Properties.C07
/-!
# C07 / C08 (generated tie) — the signature-database decoder and encoder of the current source

`GoUefi/Gen.lean` (regenerated from `/repo` on every run by `tools/go2lean`) holds the translation of
`ReadSignatureData`, `ReadSignatureList` (with its closure `parseList` and the unrolled header loop),
`ReadSignatureDatabase`, `SignatureDatabase.Unmarshal`, and of the encoders `WriteSignatureData`,
`WriteSignatureList`, `WriteSignatureDatabase`, `SignatureList.Bytes`, `SignatureDatabase.Bytes`,
`SignatureDatabase.Marshal`.  A reader is the list of bytes still to be read (what a `bytes.Reader`
delivers); unbounded `for` loops take a fuel argument.

The theorems state that, given enough fuel (`f.length + 1`), the translated decoder computes exactly
what the hand-written Impl model computes — `Impl.readList` / `Impl.readDb`, through the abstraction
`absL` / `absDb` of `Lemmas/GenSigAbs.lean` — including the distinction the property is about: a clean end of
input is reported as `io.EOF` itself, every other failure as an error that `errors.Is(err, io.EOF)`
does NOT match, so a truncated list can never be mistaken for the end of the database.  The encoder
is `Impl.encList` / `Impl.encDb`.  The C07 / C08 statements then hold for the translated code.
-/
namespace GoUefi.C08
open GoUefi GoUefi.Gen GoUefi.C09

/-- every GUID the decoder produces has an 8-byte `Data4` (it decodes 16 bytes) -/
theorem C08g_decoded_guid_ok (b : List UInt8) (h : b.length = 16) :
    GuidOK (decLE_util_EFIGUID b) ∧ gw (decLE_util_EFIGUID b) = b :=
  decGuid_ok b h

/-- `ReadSignatureData` against `Impl.readSig` (for `16 ≤ size`, the case the list decoder calls it in) -/
theorem C08g_readSignatureData (f : List UInt8) (size : UInt32) (hs : 16 ≤ size.toNat) :
    match Impl.readSig size.toNat f with
    | .ok (s, rest) => ∃ sd, signature.ReadSignatureData f size = (rest, sd, none) ∧ absSD sd = s ∧ GuidOK sd.Owner
    | .error _ => ∃ f' sd e, signature.ReadSignatureData f size = (f', sd, some e) := by
  rw [RSD_eq f size hs]
  cases hr : Impl.readSig size.toNat f with
  | error e => exact ⟨_, _, _, rfl⟩
  | ok p => exact ⟨_, rfl, absSD_unabsSD (Impl.readSig_ok hs hr).2.1⟩

/-- `ReadSignatureList` (enough fuel) against `Impl.readList` -/
theorem C08g_readList (fuel : Nat) (f : List UInt8) (hf : f.length + 1 ≤ fuel) :
    match Impl.readList f with
    | .cleanEof => ∃ f' l, signature.ReadSignatureList fuel f = (f', l, some "io.EOF")
    | .bad => ∃ f' l e, signature.ReadSignatureList fuel f = (f', l, some e) ∧ errIs (some e) "io.EOF" = false
    | .ok l rest => ∃ gl, signature.ReadSignatureList fuel f = (rest, gl, none) ∧ absL gl = l ∧ ListOK gl := by
  have h := RSL_spec fuel f (by omega)
  generalize Impl.readList f = r at h ⊢
  cases r with
  | cleanEof => exact ⟨_, _, h⟩
  | bad =>
    obtain ⟨f', e, he, hne⟩ := h
    exact ⟨f', _, e, he, hne⟩
  | ok l rest =>
    obtain ⟨gl, e, ha, hok, _⟩ := h
    exact ⟨gl, e, ha, hok⟩

/-- `ReadSignatureDatabase` (enough fuel) against `Impl.readDb`: success with the same database and
    nothing left unread, or an error -/
theorem C08g_readDb (fuel : Nat) (f : List UInt8) (hf : f.length + 1 ≤ fuel) :
    match Impl.readDb f with
    | some db => ∃ gdb, signature.ReadSignatureDatabase fuel f = ([], gdb, none) ∧ absDb gdb = db ∧ DbOK gdb
    | none => ∃ f' gdb e, signature.ReadSignatureDatabase fuel f = (f', gdb, some e) := by
  have h := dbLoop_spec fuel f [] hf
  have hq : f.length / 28 + 1 ≤ f.length + 1 := Nat.succ_le_succ (Nat.div_le_self ..)
  rw [Impl.readDb, Impl.readDbAux_fuel_irrel (f.length + 1) fuel f hq (Nat.le_trans hq hf)]
  generalize Impl.readDbAux fuel f = r at h ⊢
  cases r with
  | some db =>
    obtain ⟨gdb, e, ha, hok⟩ := h
    exact ⟨gdb, by rw [RSDB_eq, e]; rfl, ha, hok⟩
  | none =>
    obtain ⟨f', g, e, he⟩ := h
    exact ⟨f', g, e, by rw [RSDB_eq, he]⟩

/-- the fuel is never the reason for an answer: any two sufficient amounts give the same result -/
theorem C08g_fuel_irrelevant (fuel fuel' : Nat) (f : List UInt8) (hf : f.length + 1 ≤ fuel)
    (hf' : f.length + 1 ≤ fuel') :
    signature.ReadSignatureDatabase fuel f = signature.ReadSignatureDatabase fuel' f := by
  rw [RSDB_eq, RSDB_eq, dbLoop_fuel fuel fuel' f [] hf hf']

/-- `Unmarshal`: on success the receiver is replaced by the decoded database, on error it is kept -/
theorem C08g_unmarshal (fuel : Nat) (sd : signature.SignatureDatabase) (b : List UInt8)
    (hf : b.length + 1 ≤ fuel) :
    match Impl.readDb b with
    | some db => ∃ gdb, sd.Unmarshal fuel b = (gdb, [], none) ∧ absDb gdb = db
    | none => ∃ b' e, sd.Unmarshal fuel b = (sd, b', some e) := by
  have h := C08g_readDb fuel b hf
  generalize Impl.readDb b = r at h ⊢
  cases r with
  | some db =>
    obtain ⟨gdb, e, ha, _⟩ := h
    exact ⟨gdb, by simp [signature.SignatureDatabase.Unmarshal, e], ha⟩
  | none =>
    obtain ⟨f', g, e, he⟩ := h
    exact ⟨f', e, by simp [signature.SignatureDatabase.Unmarshal, he]⟩

section
-- the encoder statements carry `ListOK` / `DbOK` hypotheses that their proofs do not use
set_option linter.unusedVariables false

theorem C07g_listBytes (l : signature.SignatureList) (hl : ListOK l) :
    l.Bytes = Impl.encList (absL l) :=
  l.Bytes_eq

theorem C07g_dbBytes (sd : signature.SignatureDatabase) (h : DbOK sd) :
    sd.Bytes = Impl.encDb (absDb sd) ∧ sd.Marshal [] = Impl.encDb (absDb sd) :=
  ⟨sd.Bytes_eq, sd.Marshal_eq []⟩

/-- `Marshal` appends to what the buffer already holds -/
theorem C07g_marshal_appends (sd : signature.SignatureDatabase) (b : List UInt8) (h : DbOK sd) :
    sd.Marshal b = b ++ Impl.encDb (absDb sd) :=
  sd.Marshal_eq b

end

/-- C08 for the translated decoder: it succeeds only on input that the specification's strict codec
    accepts, returns exactly the lists the specification's layout defines, and its result re-encodes
    (with the translated encoder) to the input byte for byte. -/
theorem C08g_strict (fuel : Nat) (f : List UInt8) (hf : f.length + 1 ≤ fuel)
    (gdb : signature.SignatureDatabase) (f' : List UInt8)
    (h : signature.ReadSignatureDatabase fuel f = (f', gdb, none)) :
    f' = [] ∧ Spec.decodeDb f = some ((absDb gdb).map Impl.SList.toSpec) ∧ gdb.Bytes = f := by
  have hr := C08g_readDb fuel f hf
  split at hr
  · rename_i db hdb
    obtain ⟨gdb', e, ha, _⟩ := hr
    rw [h] at e
    simp only [Prod.mk.injEq, and_true] at e
    obtain ⟨rfl, rfl⟩ := e
    obtain ⟨s1, _, s3⟩ := C08_strict hdb
    refine ⟨rfl, by rw [ha]; exact s1, ?_⟩
    rw [gdb.Bytes_eq, ha]; exact s3
  · obtain ⟨f'', g, e, he⟩ := hr
    rw [h] at he
    cases he

/-- C08, the other direction: whatever the strict specification rejects, the translated decoder
    answers with an error (it never succeeds with a shorter or an empty database). -/
theorem C08g_rejects (fuel : Nat) (f : List UInt8) (hf : f.length + 1 ≤ fuel)
    (h : Spec.decodeDb f = none) : (signature.ReadSignatureDatabase fuel f).2.2 ≠ none := by
  have hr := C08g_readDb fuel f hf
  cases hdb : Impl.readDb f with
  | some db => nomatch h.symm.trans (Impl.readDb_decodeDb hdb)
  | none =>
    rw [hdb] at hr
    obtain ⟨f', g, e, he⟩ := hr
    rw [he]
    exact Option.some_ne_none e

/-- C07 for the translated code: on a well-formed stream of handled list types the decoder returns
    the specified value and the encoder reproduces the input. -/
theorem C07g_decode_exact (fuel : Nat) (f : List UInt8) (hf : f.length + 1 ≤ fuel)
    {ls : List Spec.SList} (h : Spec.decodeDb f = some ls)
    (hh : ∀ l ∈ ls, Impl.handled l.type l.hdr.length l.size = true) :
    ∃ gdb, signature.ReadSignatureDatabase fuel f = ([], gdb, none) ∧
      absDb gdb = ls.map Impl.ofSpec ∧ gdb.Bytes = f := by
  obtain ⟨h1, h2⟩ := C07.C07_decode_exact h hh
  have hr := C08g_readDb fuel f hf
  rw [h1] at hr
  obtain ⟨gdb, e, ha, _⟩ := hr
  exact ⟨gdb, e, ha, by rw [gdb.Bytes_eq, ha]; exact h2⟩

/-! ### non-vacuity: the translated decoder run on the 144-byte two-list database of C08 -/
example : (signature.ReadSignatureDatabase 145 Ex.bytes).2.2 = none ∧
    (signature.ReadSignatureDatabase 145 Ex.bytes).1 = [] ∧
    ((signature.ReadSignatureDatabase 145 Ex.bytes).2.1.map fun l => l.Signatures.length) = [1, 2] := by
  decide +kernel
example : signature.SignatureDatabase.Bytes (signature.ReadSignatureDatabase 145 Ex.bytes).2.1 = Ex.bytes := by
  decide +kernel
/-- a truncated stream is an error that does not look like the end of the database -/
example : (signature.ReadSignatureDatabase 145 (Ex.bytes.take 100)).2.2 = some "%w:io.ErrUnexpectedEOF" := by
  decide +kernel
/-- the empty input is the empty database -/
example : signature.ReadSignatureDatabase 1 [] = ([], [], none) := by decide +kernel

end GoUefi.C08

#print axioms GoUefi.C08.C08g_decoded_guid_ok
#print axioms GoUefi.C08.C08g_readSignatureData
#print axioms GoUefi.C08.C08g_readList
#print axioms GoUefi.C08.C08g_readDb
#print axioms GoUefi.C08.C08g_fuel_irrelevant
#print axioms GoUefi.C08.C08g_unmarshal
#print axioms GoUefi.C08.C07g_listBytes
#print axioms GoUefi.C08.C07g_dbBytes
#print axioms GoUefi.C08.C07g_marshal_appends
#print axioms GoUefi.C08.C08g_strict
#print axioms GoUefi.C08.C08g_rejects
#print axioms GoUefi.C08.C07g_decode_exact

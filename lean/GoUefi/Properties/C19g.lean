import GoUefi.Properties.C03g
import GoUefi.Properties.C19
/-!
# C19 (generated tie) — the read-only methods of the image object, as the source has them now

`Signatures`, `Verify`, `Bytes`, `Open`, `signatureBytes` of `authenticode.PECOFFBinary` as translated from
authenticode/checksum.go on every run.  The translator returns a new receiver from a method exactly when the method, or
something it calls, assigns a field, writes to / reads from / hands on a buffer that is a field (`p.certTable.Write`,
`.Read`, `.Next`, `.ReadFrom`, `ReadWinCertificate(p.certTable)`): these five return their Go results only.
-/
namespace GoUefi.C19
open GoUefi GoUefi.Gen GoUefi.C03

/-- the types of the translations: no receiver comes back (a version that walks the table with a consuming read has
    another type, and this theorem no longer compiles) -/
theorem C19g_frame_types :
    (∃ f : Nat → authenticode.PECOFFBinary → List signature.WINCertificate × GoErr,
        f = authenticode.PECOFFBinary.Signatures) ∧
    (∃ f : Nat → authenticode.Ext → authenticode.PECOFFBinary → X509Cert → Bool × GoErr,
        f = authenticode.PECOFFBinary.Verify) ∧
    (∃ f : authenticode.PECOFFBinary → List UInt8, f = authenticode.PECOFFBinary.Bytes) ∧
    (∃ f : authenticode.PECOFFBinary → List UInt8, f = authenticode.PECOFFBinary.Open) ∧
    (∃ f : authenticode.PECOFFBinary → List UInt8, f = authenticode.PECOFFBinary.signatureBytes) :=
  C03g_frame

/-- repeatability in the shape of `C19_repeatable`: any sequence of these calls on one object returns, call by call,
    what the first call of that kind returned (the object is a value that none of them replaces) -/
theorem C19g_repeatable (fuel : Nat) (X : authenticode.Ext) (cert : X509Cert) (p : authenticode.PECOFFBinary)
    (n : Nat) :
    (List.replicate n ()).map (fun _ => (p.Signatures fuel, authenticode.PECOFFBinary.Verify fuel X p cert, p.Bytes)) =
      List.replicate n (p.Signatures fuel, authenticode.PECOFFBinary.Verify fuel X p cert, p.Bytes) :=
  List.map_replicate

/-- what they return depends on the fields they may read: `Signatures` on the table only, `Bytes`/`Open` on the three
    sections, the padding and the table -/
theorem C19g_reads (fuel : Nat) (p q : authenticode.PECOFFBinary) :
    (p.certTable = q.certTable → p.Signatures fuel = q.Signatures fuel) ∧
    (p.certTable = q.certTable → p.firstSection = q.firstSection → p.optDataDir = q.optDataDir →
      p.lastSection = q.lastSection → p.padding = q.padding → p.Bytes = q.Bytes ∧ p.Open = q.Open) := by
  refine ⟨C03g_signatures_table fuel p q, fun h1 h2 h3 h4 h5 => ?_⟩
  rw [(C03g_bytes p).2, (C03g_bytes q).2, (C03g_bytes p).1, (C03g_bytes q).1, h1, h2, h3, h4, h5]
  exact ⟨rfl, rfl⟩

end GoUefi.C19

#print axioms GoUefi.C19.C19g_frame_types
#print axioms GoUefi.C19.C19g_repeatable
#print axioms GoUefi.C19.C19g_reads

import GoUefi.Lemmas.PeSign
import GoUefi.Properties.C01
import GoUefi.Properties.C04
/-!
# C02 — image verification succeeds only for a signature over these bytes

`verify_chain` says once what a successful `Verify` commits to: `C02_sound`, `C02_chain`,
`C02_other_key_needs_valid_sig` and `C02_refines_spec` are read off it; the no-transplant results
rest on `C02_same_table_same_digest`.  The examples meet the hypotheses on a really signed image.
Model of `PECOFFBinary.Verify`, `ParseAuthenticode`, `Authenticode.Verify`:
`GoUefi/Model/Authenticode.lean`; of `Parse` / `Signatures()`: `GoUefi/Model/Pe.lean`; of
`PKCS7.Verify`: `GoUefi/Model/Pkcs7.lean`.  Cryptography is abstract (`GoUefi/Model/Crypto.lean`).
Specification: `GoUefi/Spec/Authenticode.lean`, `GoUefi/Spec/Pe.lean`, `GoUefi/Spec/Cms.lean`.
Helper lemmas, `PeSign.digestOfContent` and the example values (`PeSignEx`): `GoUefi/Lemmas/PeSign.lean`.
-/
namespace GoUefi.C02
open GoUefi GoUefi.Spec.PE GoUefi.Impl GoUefi.PeSign

/-- the whole chain of commitments behind a successful `PECOFFBinary.Verify`: the loop over the table entries, the
    digest checks of `Authenticode.Verify`, the PKCS#7 layer (`C04_sound`) on attributes taken as transmitted -/
theorem verify_chain {C : Crypto} {ok : Bytes → Bool} {p : Parsed} {c : Cert}
    (hv : p.verify C ok c = .ok true) :
    ∃ ws w a, p.signatures = .ok ws ∧ w ∈ ws ∧ parseAuthenticode ok w.cert = some a ∧
      a.alg = oidSha256 ∧ a.digest.length = 32 ∧ a.digest = C.sha256 (hashStream p) ∧
      a.pkcs.verify C c = .ok true ∧
      ∃ s ∈ a.pkcs.signers, s.issuer = c.rawIssuer ∧ s.serial = c.serial ∧
        ∃ att body, s.attrs = some att ∧ att.raw = some (Der.addASN1 Der.tSET body) ∧
          (∃ pre post, w.cert = pre ++ Der.addASN1 Der.tCtx0 body ++ post) ∧
          C.rsaVerify c.pub (Der.addASN1 Der.tSET body) s.sig = true ∧
          ∃ v r, Der.readAny a.pkcs.content = some (Der.tSEQ, v, r) ∧ C.sha256 v = att.md ∧
            Spec.spcDigest v = some (a.alg, a.digest) := by
  obtain ⟨_, w0, ws0, hs, hl⟩ := (verify_spec C ok p c).of_ok hv
  obtain ⟨_, pre, w, post, e, _, a, ha, hav⟩ := (verifySigs_spec C ok c _ _).of_ok hl
  have hw : w ∈ w0 :: ws0 := by rw [e]; exact List.mem_append_right _ List.mem_cons_self
  obtain ⟨g1, g2, g3, g4⟩ := (Auth.verify_spec c _ ha).of_ok hav
  obtain ⟨hp7, _, _⟩ := parseAuthenticode_inv ha
  obtain ⟨der, r0, hra, hspc⟩ := parseAuthenticode_spcDigest ha
  refine ⟨_, w, a, hs, hw, ha, g1, g2, g3, g4, ?_⟩
  obtain ⟨s, hmem, hi, hser, att, hat, ⟨sigdata, hd, hrsa⟩, hdig⟩ := C04.C04_sound g4
  obtain ⟨body, hraw, hsub, _⟩ := parseP7_attrs hp7 hmem hat
  -- parsed attributes carry `raw`, so that is what was signed
  rw [hraw] at hd
  obtain rfl : Der.addASN1 Der.tSET body = sigdata := hd.elim Option.some.inj nofun
  -- the content was read as a SEQUENCE, so it is not empty and `C04_sound` speaks of its value octets
  obtain ⟨t, v, r, hr, hmd⟩ := hdig fun e => by rw [e] at hra; cases hra
  rw [hra] at hr
  cases hr
  exact ⟨s, hmem, hi, hser, att, body, hat, hraw, hsub, hrsa, der, r0, hra, hmd, hspc⟩

/-- `Verify` answers `true` only if some entry of the certificate table parses as Authenticode,
    names SHA-256, embeds the SHA-256 of *this* image's hash stream, and its PKCS#7 verifies under
    the certificate. -/
theorem C02_sound {C : Crypto} {certsOk : Bytes → Bool} {p : Parsed} {c : Cert}
    (h : p.verify C certsOk c = .ok true) :
    ∃ w ws', (p.signatures = .ok ws' ∧ w ∈ ws') ∧
      ∃ a, parseAuthenticode certsOk w.cert = some a ∧ a.alg = oidSha256 ∧
        a.digest = C.sha256 (hashStream p) ∧ a.pkcs.verify C c = .ok true := by
  obtain ⟨ws, w, a, hs, hw, ha, g1, _, g3, g4, _⟩ := verify_chain h
  exact ⟨w, ws, ⟨hs, hw⟩, a, ha, g1, g3, g4⟩

/-- The digest and the digest algorithm `ParseAuthenticode` reports are read from — hence
    determined by — the signed content `PKCS7.Content`. -/
theorem C02_digest_in_content {certsOk : Bytes → Bool} {blob : Bytes} {a : Auth}
    (h : parseAuthenticode certsOk blob = some a) :
    digestOfContent a.pkcs.content = some (a.alg, a.digest) := by
  obtain ⟨_, _, der, r0, spc, der1, di, r1, di1, r2, h1, h2, h3, h4, h5⟩ := parseAuthenticode_inv h
  simp [digestOfContent, h1, h2, h3, h4, h5]

/-- The whole chain of commitments (C02_sound + C04_sound + C01_impl_eq_spec).  On a well-formed
    image, `Verify` answers `true` only if some table entry `w` parses as Authenticode `a` such that
    * the DigestInfo inside the signed content names SHA-256 and holds the SHA-256 of the
      *specification's* hash input of the image (`digestOfContent`, and in the specification's own
      reading `Spec.spcDigest` of the content's value octets `v`);
    * some SignerInfo `s` names the certificate (issuer bytes and serial) and carries signed
      attributes; the RSA signature under the certificate's key is valid over those attributes as
      transmitted (the `[0]` element occurring in the entry, re-tagged SET);
    * the messageDigest attribute is the SHA-256 of the content's value octets `v`. -/
theorem C02_chain {C : Crypto} {certsOk : Bytes → Bool} {b : Bytes} (wb : WF b) {p : Parsed}
    (hp : parse b (factsOf b) = .ok p) {c : Cert} (h : p.verify C certsOk c = .ok true) :
    ∃ ws w a, p.signatures = .ok ws ∧ w ∈ ws ∧ parseAuthenticode certsOk w.cert = some a ∧
      digestOfContent a.pkcs.content = some (oidSha256, C.sha256 (authInputPadded b)) ∧
      ∃ s ∈ a.pkcs.signers, s.issuer = c.rawIssuer ∧ s.serial = c.serial ∧
        ∃ att body, s.attrs = some att ∧ att.raw = some (Der.addASN1 Der.tSET body) ∧
          (∃ pre post, w.cert = pre ++ Der.addASN1 Der.tCtx0 body ++ post) ∧
          C.rsaVerify c.pub (Der.addASN1 Der.tSET body) s.sig = true ∧
          ∃ v r, Der.readAny a.pkcs.content = some (Der.tSEQ, v, r) ∧ C.sha256 v = att.md ∧
            Spec.spcDigest v = some (oidSha256, C.sha256 (authInputPadded b)) := by
  obtain ⟨ws, w, a, hs, hw, ha, g1, _, g3, _, s, hmem, hi, hser, att, body, hat, hraw, hsub, hrsa,
    v, r, hra, hmd, hspc⟩ := verify_chain h
  have hd := C02_digest_in_content ha
  rw [g1, g3, hashStream_of_parse wb hp] at hd hspc
  exact ⟨ws, w, a, hs, hw, ha, hd, s, hmem, hi, hser, att, body, hat, hraw, hsub, hrsa, v, r, hra,
    hmd, hspc⟩

/-- Two well-formed images (any lengths) with the same certificate table that both verify: the
    first table entry embeds one digest, which is the SHA-256 of both hash inputs.  (An entry that
    fails the digest comparison ends the loop of `Verify` with an error, so the first entry always
    passes it; no restriction to single-entry tables is needed.) -/
theorem C02_same_table_same_digest {C : Crypto} {certsOk : Bytes → Bool} {b b' : Bytes}
    (wb : WF b) (wb' : WF b') {p p' : Parsed} (hp : parse b (factsOf b) = .ok p)
    (hp' : parse b' (factsOf b') = .ok p') (htab : p'.certTable = p.certTable) {c c' : Cert}
    (hv : p.verify C certsOk c = .ok true) (hv' : p'.verify C certsOk c' = .ok true) :
    ∃ w ws a, p.signatures = .ok (w :: ws) ∧ parseAuthenticode certsOk w.cert = some a ∧
      a.digest = C.sha256 (authInputPadded b) ∧ a.digest = C.sha256 (authInputPadded b') := by
  obtain ⟨_, w, ws, hs, hl⟩ := (verify_spec C certsOk p c).of_ok hv
  obtain ⟨_, w', ws', hs', hl'⟩ := (verify_spec C certsOk p' c').of_ok hv'
  rw [signatures_congr htab, hs] at hs'
  cases hs'
  obtain ⟨a, v, ha, hav⟩ := verifySigs_head hl
  obtain ⟨a', v', ha', hav'⟩ := verifySigs_head hl'
  rw [ha] at ha'
  cases ha'
  refine ⟨w, ws, a, hs, ha, ?_, ?_⟩
  · rw [← hashStream_of_parse wb hp]; exact ((Auth.verify_spec c _ ha).of_ok hav).2.2.1
  · rw [← hashStream_of_parse wb' hp']; exact ((Auth.verify_spec c' _ ha).of_ok hav').2.2.1

/-- Two well-formed, equally long images that differ in a covered byte and both verify (possibly
    under different certificates) while carrying the same certificate table: some entries of that
    table embed the SHA-256 of two *different* hash inputs. -/
theorem C02_covered_byte_change_digests {C : Crypto} {certsOk : Bytes → Bool} {b b' : Bytes}
    (wb : WF b) (wb' : WF b') (hn : b.length = b'.length) {q : Nat} (hq : Covered b q)
    (hd : b[q]? ≠ b'[q]?) {p p' : Parsed} (hp : parse b (factsOf b) = .ok p)
    (hp' : parse b' (factsOf b') = .ok p') (htab : p'.certTable = p.certTable) {c c' : Cert}
    (hv : p.verify C certsOk c = .ok true) (hv' : p'.verify C certsOk c' = .ok true) :
    ∃ ws w w' a a', p.signatures = .ok ws ∧ p'.signatures = .ok ws ∧ w ∈ ws ∧ w' ∈ ws ∧
      parseAuthenticode certsOk w.cert = some a ∧ parseAuthenticode certsOk w'.cert = some a' ∧
      a.digest = C.sha256 (authInputPadded b) ∧ a'.digest = C.sha256 (authInputPadded b') ∧
      authInputPadded b ≠ authInputPadded b' := by
  obtain ⟨w, ws, a, hs, ha, d1, d2⟩ := C02_same_table_same_digest wb wb' hp hp' htab hv hv'
  exact ⟨_, w, w, a, a, hs, (signatures_congr htab).trans hs, List.mem_cons_self, List.mem_cons_self,
    ha, ha, d1, d2, C01.C01_covered_matters b b' wb wb' hn q hq hd⟩

/-- No transplant, up to a SHA-256 collision: a certificate table taken from a verifying well-formed
    image does not make a different well-formed image (of any length) verify — under any certificate —
    when the hash inputs differ, unless SHA-256 collides on them. -/
theorem C02_no_transplant_upto_collision {C : Crypto} {certsOk : Bytes → Bool} {b b' : Bytes}
    (wb : WF b) (wb' : WF b') {p p' : Parsed} (hp : parse b (factsOf b) = .ok p)
    (hp' : parse b' (factsOf b') = .ok p') (htab : p'.certTable = p.certTable)
    (hne : authInputPadded b ≠ authInputPadded b')
    (hnc : C.sha256 (authInputPadded b) = C.sha256 (authInputPadded b') →
      authInputPadded b = authInputPadded b')
    {c c' : Cert} (hv : p.verify C certsOk c = .ok true) : p'.verify C certsOk c' ≠ .ok true := by
  intro hv'
  obtain ⟨_, _, _, _, _, d1, d2⟩ := C02_same_table_same_digest wb wb' hp hp' htab hv hv'
  exact hne (hnc (d1.symm.trans d2))

/-- No covered byte can be changed, up to a SHA-256 collision: if a well-formed image verifies, a
    well-formed image of the same length that differs in a covered byte and carries the same
    certificate table (one entry or many) does not verify — under any certificate — unless SHA-256
    collides on the two hash inputs. -/
theorem C02_no_covered_byte_change_upto_collision {C : Crypto} {certsOk : Bytes → Bool}
    {b b' : Bytes} (wb : WF b) (wb' : WF b') (hn : b.length = b'.length) {q : Nat}
    (hq : Covered b q) (hd : b[q]? ≠ b'[q]?) {p p' : Parsed} (hp : parse b (factsOf b) = .ok p)
    (hp' : parse b' (factsOf b') = .ok p') (htab : p'.certTable = p.certTable)
    (hnc : C.sha256 (authInputPadded b) = C.sha256 (authInputPadded b') →
      authInputPadded b = authInputPadded b')
    {c c' : Cert} (hv : p.verify C certsOk c = .ok true) : p'.verify C certsOk c' ≠ .ok true :=
  C02_no_transplant_upto_collision wb wb' hp hp' htab (C01.C01_covered_matters b b' wb wb' hn q hq hd) hnc hv

/-- Success under another certificate `c'` with the issuer and serial of `c` still needs an RSA
    signature that is valid under the key of `c'` over the transmitted signed attributes of a
    signer naming `c`. -/
theorem C02_other_key_needs_valid_sig {C : Crypto} {certsOk : Bytes → Bool} {p : Parsed}
    {c c' : Cert} (hi : c'.rawIssuer = c.rawIssuer) (hs : c'.serial = c.serial)
    (h : p.verify C certsOk c' = .ok true) :
    ∃ ws w a, p.signatures = .ok ws ∧ w ∈ ws ∧ parseAuthenticode certsOk w.cert = some a ∧
      ∃ s ∈ a.pkcs.signers, s.issuer = c.rawIssuer ∧ s.serial = c.serial ∧
        ∃ att body, s.attrs = some att ∧ att.raw = some (Der.addASN1 Der.tSET body) ∧
          C.rsaVerify c'.pub (Der.addASN1 Der.tSET body) s.sig = true := by
  obtain ⟨ws, w, a, hsig, hw, ha, _, _, _, _, s, hmem, hi', hser, att, body, hat, hraw, _, hrsa, _⟩ :=
    verify_chain h
  exact ⟨ws, w, a, hsig, hw, ha, s, hmem, hi'.trans hi, hser.trans hs, att, body, hat, hraw, hrsa⟩

/-- What the implementation accepts, the from-the-documents specification accepts: for a
    well-formed image whose certificate table walks strictly, and a digest function that never returns
    the empty string (true of SHA-256), `Verify = ok true` implies `Spec.authenticodeVerify`. -/
theorem C02_refines_spec {C : Crypto} {certsOk : Bytes → Bool} {b : Bytes} (wb : WF b)
    {p : Parsed} (hp : parse b (factsOf b) = .ok p) {c : Cert} {es : List CertEntry}
    (he : certEntries b = some es) (hsha : ∀ x, C.sha256 x ≠ [])
    (h : p.verify C certsOk c = .ok true) : Spec.authenticodeVerify C b c = true := by
  obtain ⟨ws, w, a, hs, hw, ha, g1, _, g3, g4, _⟩ := verify_chain h
  obtain ⟨hp7, hoid, _⟩ := parseAuthenticode_inv ha
  obtain ⟨der, r0, hra, hspc⟩ := parseAuthenticode_spcDigest ha
  have hstream := hashStream_of_parse wb hp
  cases parse_eq_wfParsed wb hp
  obtain ⟨hmem, hrev⟩ := (certEntries_walk he).signatures_sub _ _ hs w hw
  have hcms := cmsVerify_of_verify hsha hp7 g4
  have hco := contentOf_of_parseP7 hp7 hra
  unfold Spec.authenticodeVerify
  rw [he]
  refine List.any_eq_true.mpr ⟨_, hmem, ?_⟩
  unfold Spec.entryAccepts
  have e1 : (oidSpcIndirectData == Spec.oidSpcIndirectData) = true := by decide
  have e2 : (oidSha256 == Spec.oidSha256) = true := by decide
  simp only [hrev, hcms, hco, hspc, hoid, g1, g3, hstream, e1, e2]
  simp

/-- What `WF` assumes about the certificate table, `Parse` enforces (F22 repair): whenever `Parse`
    succeeds on *any* byte string whose directory entry declares a table, that table starts 8-aligned
    and ends exactly at the end of the file — so the unsigned `Size` field cannot be inflated to
    swallow bytes in front of the table while the zero padding stands in for them, and the table
    `Verify` walks is literally the tail of the file.  No well-formedness hypothesis. -/
theorem C02_table_is_tail {img : Bytes} {f : PeFacts} {p : Parsed} (hp : parse img f = .ok p)
    (hs : f.ddSize ≠ 0) :
    f.ddVA % 8 = 0 ∧ f.ddVA + f.ddSize = img.length ∧
      p.certTable = slice img f.ddVA (f.ddVA + f.ddSize) := by
  obtain ⟨_, _, _, htail, _, _, _, hct, _⟩ := (parse_spec _ _).of_ok hp
  exact ⟨(htail hs).1, (htail hs).2, hct⟩

/-- The strict reading of the certificate table implies the tolerant one that the correspondence
    oracle judges "success ⇒ specification" by: on a table that walks strictly both see the same
    entries, so `Spec.authenticodeVerify` and `Spec.authenticodeVerifyLenient` agree there. -/
theorem C02_strict_implies_lenient {C : Crypto} {b : Bytes} {c : Cert} {es : List CertEntry}
    (he : certEntries b = some es) :
    Spec.authenticodeVerifyLenient C b c = Spec.authenticodeVerify C b c := by
  unfold Spec.authenticodeVerifyLenient Spec.authenticodeVerify Spec.PE.certEntriesLenient
  rw [he]
  simp only
  rcases certEntries_inv he with ⟨hc, rfl⟩ | ⟨hc, htail, _⟩
  · rw [if_pos hc]
  · -- eight bytes per entry: the table size is fuel enough for the tolerant walker too
    have hlen := (certEntries_walk he).length
    rw [slice_length] at hlen
    rw [if_neg hc, if_neg htail, (certEntries_walk he).walkPrefix _ (by omega)]

section NonVacuity
open GoUefi.PeExample GoUefi.PeSignEx

example : WF imgSigned := wf_imgSigned
example : parse imgSigned (factsOf imgSigned) = .ok (parsed imgSigned) := parse_imgSigned
example : (parsed imgSigned).verify toy32 allOk cert = .ok true := verify_imgSigned
example : imgSigned.length = 800 ∧ certAddr imgSigned = 352 ∧ certSize imgSigned = 448 ∧
    blob.length = 434 := by
  rw [signed64.len, signed64.certAddr_eq wf_img64, signed64.certSize_eq wf_img64, newVA_eq wf_img64,
    newSize_eq, certSize_img64, sigEntry_length, length_blob, length_img64]
  decide

example := C02_sound verify_imgSigned
example := C02_chain wf_imgSigned parse_imgSigned verify_imgSigned
example := C02_other_key_needs_valid_sig (c := cert) rfl rfl verify_imgSigned
example : (parseAuthenticode allOk blob).map (fun a => (a.alg, a.digest)) =
    some (oidSha256, toy32.sha256 (authInputPadded imgSigned)) := by
  obtain ⟨_, _, _, _, _, dig, _⟩ := blob_facts
  rw [digest_imgSigned]
  exact dig
example : (parseAuthenticode allOk blob).bind (fun a => digestOfContent a.pkcs.content) =
    some (oidSha256, toy32.sha256 (authInputPadded img64)) := by
  obtain ⟨_, _, _, _, _, _, dig, _⟩ := blob_facts
  rw [stream64]
  exact dig

/-- the same certificate with another key: the RSA check fails, an error -/
example : (parsed imgSigned).verify toy32 allOk certOtherKey = .err := by
  obtain ⟨_, _, other, _⟩ := blob_facts
  rw [verify_signed signed64 wf_img64 certSize_img64, stream64]
  exact other

example : (parsed imgSigned').certTable = (parsed imgSigned).certTable := certTable_imgSigned'
example : (parsed imgSigned').verify toy32 allOk cert ≠ .ok true := by
  refine C02_no_covered_byte_change_upto_collision (q := 348) wf_imgSigned wf_imgSigned' ?_
    (signed64.covered wf_img64 covered_img64) ?_ parse_imgSigned parse_imgSigned' certTable_imgSigned'
    (fun e => absurd e digests_imgSigned_differ) verify_imgSigned
  · rw [signed64.len, signed64'.len, length_img64, length_img64']
  · rw [← signed64.agree_covered wf_img64 covered_img64, ← signed64'.agree_covered wf_img64' covered_img64']
    exact img64_differ
example : (parsed imgSigned').verify toy32 allOk cert ≠ .ok true :=
  C02_no_transplant_upto_collision wf_imgSigned wf_imgSigned' parse_imgSigned parse_imgSigned'
    certTable_imgSigned' (fun e => digests_imgSigned_differ (congrArg _ e))
    (fun e => absurd e digests_imgSigned_differ) verify_imgSigned
example : (parsed imgSigned').verify toy32 allOk cert = .err := verify_imgSigned'

theorem toy32_ne_nil (x : Bytes) : toy32.sha256 x ≠ [] := by simp [toy32, zeros]
example : Spec.authenticodeVerify toy32 imgSigned cert = true :=
  C02_refines_spec (es := [⟨8 + blob.length, 0x0200, 2, blob⟩]) wf_imgSigned parse_imgSigned
    (signed64.entries wf_img64 blob_h32 (certEntries_unsigned certSize_img64)) toy32_ne_nil verify_imgSigned
/-- `imgEf` carries the same signature in a table entry of wCertificateType 0x0EF1: neither the
    implementation nor the specification looks at that field -/
example : WF imgEf ∧ parse imgEf (factsOf imgEf) = .ok (parsed imgEf) ∧
    certEntries imgEf = some [⟨8 + blob.length, 0x0200, 0x0EF1, blob⟩] ∧
    (parsed imgEf).verify toy32 allOk cert = .ok true ∧
    Spec.authenticodeVerify toy32 imgEf cert = true :=
  ⟨wf_imgEf, parse_imgEf, imgEf_facts.2.1, imgEf_facts.2.2,
    C02_refines_spec wf_imgEf parse_imgEf imgEf_facts.2.1 toy32_ne_nil imgEf_facts.2.2⟩

end NonVacuity

#print axioms C02_sound
#print axioms C02_digest_in_content
#print axioms C02_chain
#print axioms C02_covered_byte_change_digests
#print axioms C02_same_table_same_digest
#print axioms C02_no_covered_byte_change_upto_collision
#print axioms C02_no_transplant_upto_collision
#print axioms C02_other_key_needs_valid_sig
#print axioms C02_refines_spec

end GoUefi.C02
#print axioms GoUefi.C02.C02_table_is_tail
#print axioms GoUefi.C02.C02_strict_implies_lenient

import GoUefi.Lemmas.PeSign
/-!
# C03 — signing yields a well-formed signed image

Model of `PECOFFBinary.AppendSignature` / `Bytes()` / `Signatures()`: `GoUefi/Model/Pe.lean`;
specification of the image layout, of the hash input and the strict certificate-table walker:
`GoUefi/Spec/Pe.lean`.  Helper lemmas (all that is used of the signed file is `PeSign.Signed`) and the example
values (`PeExample` in Lemmas/Pe.lean, `PeSignEx`): `GoUefi/Lemmas/PeSign.lean`.

Common hypotheses: `b` a well-formed image, `p` what `Parse` returned for it, `sig` a signature
blob such that every number written to the directory entry fits in a uint32.
-/
namespace GoUefi.C03
open GoUefi GoUefi.Spec.PE GoUefi.Impl GoUefi.PeSign

/-- The file written after `AppendSignature`: every original byte except the 8-byte Certificate
    Table directory entry is kept in place, the file is zero-padded to a multiple of 8, and the
    certificate table (the old table followed by the new 8-aligned WIN_CERTIFICATE) ends the file.
    The new directory entry is 8-aligned, its size is a multiple of 8, and it spans exactly to the
    end of the (8-aligned) file.  For an already signed image there is no padding and the old
    table was the tail of the file. -/
theorem C03_layout (b : Bytes) (h : WF b) (p : Parsed) (hp : parse b (factsOf b) = .ok p)
    (sig : Bytes) (h32 : 8 + sig.length < 2^32) (hfit : b.length + 8 + sig.length + 16 < 2^32) :
    let entry := writeWinCert ⟨8 + sig.length, 0x0200, 2, sig⟩ ++ zeros (pad8 (8 + sig.length))
    let va' := if certSize b ≠ 0 then certAddr b else b.length + pad8 b.length
    let sz' := if certSize b ≠ 0 then certSize b + entry.length else entry.length
    let out := (p.appendSignature sig).bytes
    out = slice b 0 (layout b).dd ++ le32 va' ++ le32 sz' ++
            slice b ((layout b).dd + 8) (b.length - certSize b) ++ zeros (pad8 b.length) ++
            slice b (certAddr b) (certAddr b + certSize b) ++ entry ∧
    va' % 8 = 0 ∧ sz' % 8 = 0 ∧ va' + sz' = out.length ∧ out.length % 8 = 0 ∧
    out.length = b.length + pad8 b.length + entry.length ∧
    (certSize b ≠ 0 → pad8 b.length = 0 ∧ certAddr b + certSize b = b.length) := by
  intro entry va' sz' out
  have sg := signed_of_append h hp sig h32 hfit
  obtain ⟨n1, n2, n3, n4, _, _⟩ := sg.nums h
  refine ⟨?_, n1, n2, n3, n4, sg.len, ?_⟩
  · cases parse_eq_wfParsed h hp
    simp only [List.append_assoc]
    exact bytes_appendSignature h sig h32 hfit
  · intro hc
    obtain ⟨ha, h8, _, _⟩ := h.certAddr_eq hc
    exact ⟨pad8_eq_zero h8, ha⟩

/-- The independent strict walker of the specification sees, in the signed file, the old entries
    followed by exactly one new revision-2.0 PKCS#7 entry with the correct length and body; an
    unsigned image has no old entries. -/
theorem C03_entries (b : Bytes) (h : WF b) (p : Parsed) (hp : parse b (factsOf b) = .ok p)
    (sig : Bytes) (h32 : 8 + sig.length < 2^32) (hfit : b.length + 8 + sig.length + 16 < 2^32)
    (es : List CertEntry) (he : certEntries b = some es) :
    certEntries (p.appendSignature sig).bytes = some (es ++ [⟨8 + sig.length, 0x0200, 2, sig⟩]) ∧
    (certSize b = 0 → es = []) := by
  refine ⟨(signed_of_append h hp sig h32 hfit).entries h h32 he, fun hc => ?_⟩
  rw [certEntries_unsigned hc] at he
  cases he; rfl

/-- The signed file is again a well-formed image: C01 and, with `C03_reparse`, the statements of this
    file apply to it in turn. -/
theorem C03_wf_preserved (b : Bytes) (h : WF b) (p : Parsed) (hp : parse b (factsOf b) = .ok p)
    (sig : Bytes) (h32 : 8 + sig.length < 2^32) (hfit : b.length + 8 + sig.length + 16 < 2^32) :
    WF (p.appendSignature sig).bytes :=
  (signed_of_append h hp sig h32 hfit).wf h

/-- Signing does not change the hash input (hence, for any digest function, the digest); as the
    signed file is 8-aligned, this is also the unpadded specification hash input of the signed
    file itself. -/
theorem C03_digest_invariant (b : Bytes) (h : WF b) (p : Parsed) (hp : parse b (factsOf b) = .ok p)
    (sig : Bytes) (h32 : 8 + sig.length < 2^32) (hfit : b.length + 8 + sig.length + 16 < 2^32) :
    authInputPadded (p.appendSignature sig).bytes = authInputPadded b ∧
    authInput (p.appendSignature sig).bytes = authInputPadded b := by
  have sg := signed_of_append h hp sig h32 hfit
  exact ⟨sg.digest h, (congrArg authInput (sg.padded_eq h)).symm.trans (sg.digest h)⟩

/-- Serialising and parsing again between two signing steps changes nothing: the signed file
    parses, `Bytes()` of the result is the file, the hash stream is the one of the original image,
    the certificate table and the directory entry are the ones `AppendSignature` left in memory,
    and signing the re-parsed value writes the same file as signing the in-memory value again. -/
theorem C03_reparse (b : Bytes) (h : WF b) (p : Parsed) (hp : parse b (factsOf b) = .ok p)
    (sig : Bytes) (h32 : 8 + sig.length < 2^32) (hfit : b.length + 8 + sig.length + 16 < 2^32) :
    let entry := writeWinCert ⟨8 + sig.length, 0x0200, 2, sig⟩ ++ zeros (pad8 (8 + sig.length))
    let va' := if certSize b ≠ 0 then certAddr b else b.length + pad8 b.length
    let sz' := if certSize b ≠ 0 then certSize b + entry.length else entry.length
    let out := (p.appendSignature sig).bytes
    ∃ p', parse out (factsOf out) = .ok p' ∧ p'.bytes = out ∧ hashStream p' = hashStream p ∧
      p'.certTable = (p.appendSignature sig).certTable ∧ p'.ddVA = va' ∧ p'.ddSize = sz' ∧
      ∀ sig2, (p'.appendSignature sig2).bytes =
        ((p.appendSignature sig).appendSignature sig2).bytes := by
  cases parse_eq_wfParsed h hp
  have sg := signed_of_append h (parse_of_wf h) sig h32 hfit
  have hmid := h.dd_le
  have hva : newVA b ≠ 0 := by
    rw [newVA_eq h]
    omega
  simp only []
  -- `q` is the value in memory, `o` the file written from it
  generalize hq : (wfParsed b).appendSignature sig = q at sg ⊢
  rw [appendSignature_eq h sig h32 hfit] at hq
  generalize q.bytes = o at sg ⊢
  have hend : b.length - certSize b ≤ o.length := by
    rw [sg.len]
    omega
  have wo := sg.wf h
  obtain ⟨_, _, _, n4, n5, n6⟩ := sg.nums h
  have hl := sg.layout_eq h
  have hcs := sg.certSize_eq h
  have hca := sg.certAddr_eq h
  have hct : (wfParsed o).certTable = q.certTable := by
    rw [sg.certTable h, ← hq]
    rfl
  refine ⟨wfParsed o, parse_of_wf wo, bytes_wfParsed wo (by rw [hcs]; exact n6),
    (sg.hashStream h).trans (hashStream_wfParsed h).symm, hct, hca, hcs, fun sig2 => ?_⟩
  -- the re-parsed value and `q` agree in every component that `AppendSignature` and `Bytes()` read
  subst hq
  apply appendSignature_bytes_congr
  -- both values unfolded to their components (`show`ing the components instead lets the unifier
  -- unfold `slice` before `wfParsed`, which is slow)
  all_goals simp only [wfParsed]
  · exact hca
  · exact hcs
  · exact hva
  · exact n6
  · rw [hl]; exact sg.pre
  · rw [hl, hcs, n5, pad8_eq_zero n4, slice_split o hmid (Nat.le_add_right _ _) hend, sg.mid, sg.padz]
    exact List.append_nil _
  · exact hct

/-- `Signatures()` after `AppendSignature` lists the old signatures followed by the new one.

    Two more hypotheses (both needed, see the examples at the end): the new signature is not empty,
    and the old table is consumed exactly by the walk — it walks strictly (`certEntries`) and every
    old entry has a body (dwLength > 8).  `Signatures()` stops as soon as at most 8 bytes remain,
    so it never lists a trailing entry with an empty body. -/
theorem C03_signatures (b : Bytes) (h : WF b) (p : Parsed) (hp : parse b (factsOf b) = .ok p)
    (sig : Bytes) (h32 : 8 + sig.length < 2^32) (hfit : b.length + 8 + sig.length + 16 < 2^32)
    (hne : sig ≠ []) (es : List CertEntry) (he : certEntries b = some es)
    (hbody : ∀ x ∈ es, 8 < x.length) (ws : List WinCert) (hs : p.signatures = .ok ws) :
    (p.appendSignature sig).signatures = .ok (ws ++ [⟨8 + sig.length, 0x0200, 2, sig⟩]) := by
  cases parse_eq_wfParsed h hp
  have hw := certEntries_walk he
  have hlen := hw.length
  have hE := sigEntry_length sig
  unfold Parsed.signatures at hs ⊢
  rw [appendSignature_eq h sig h32 hfit]
  simp only []
  rw [List.length_append]
  have hct : (wfParsed b).certTable = slice b (certAddr b) (certAddr b + certSize b) := rfl
  rw [hct] at hs ⊢
  exact hw.signatures_append hbody _ _ hs (by omega) _ _ _ (Nat.div_le_self _ 8)
    (signaturesAux_sigEntry sig h32 hne _ (by omega))

section NonVacuity
open GoUefi.PeExample GoUefi.PeSignEx

example : parse img64 (factsOf img64) = .ok (parsed img64) := parse_img64
example : parse img64s (factsOf img64s) = .ok (parsed img64s) := parse_img64s
example : 8 + sig3.length < 2^32 ∧ img64.length + 8 + sig3.length + 16 < 2^32 ∧
    img64s.length + 8 + sig3.length + 16 < 2^32 := ⟨by decide, sig3_fits⟩

example := C03_layout img64 wf_img64 _ parse_img64 sig3 (by decide) sig3_fits.1
example := C03_layout img64s wf_img64s _ parse_img64s sig3 (by decide) sig3_fits.2
example : WF ((parsed img64).appendSignature sig3).bytes :=
  C03_wf_preserved img64 wf_img64 _ parse_img64 sig3 (by decide) sig3_fits.1
example : authInputPadded ((parsed img64).appendSignature sig3).bytes = authInputPadded img64 :=
  (C03_digest_invariant img64 wf_img64 _ parse_img64 sig3 (by decide) sig3_fits.1).1

/-- 349 bytes + 3 of padding + a 16-byte entry = 368 -/
example : (((parsed img64).appendSignature sig3).bytes).length = 368 ∧
    certAddr ((parsed img64).appendSignature sig3).bytes = 352 ∧
    certSize ((parsed img64).appendSignature sig3).bytes = 16 ∧
    wfCheck ((parsed img64).appendSignature sig3).bytes = true ∧
    certEntries img64 = some [] ∧
    certEntries ((parsed img64).appendSignature sig3).bytes = some [⟨11, 0x0200, 2, sig3⟩] ∧
    (parsed img64).signatures = .ok [] ∧
    ((parsed img64).appendSignature sig3).signatures = .ok [⟨11, 0x0200, 2, sig3⟩] := by
  -- evaluating from `wfParsed img64` on is cheaper than evaluating `Parse` as well
  rw [parsed_eq wf_img64]
  decide +kernel
example : (((parsed img64s).appendSignature sig3).bytes).length = 384 ∧
    certAddr ((parsed img64s).appendSignature sig3).bytes = 352 ∧
    certSize ((parsed img64s).appendSignature sig3).bytes = 32 ∧
    certEntries img64s = some [⟨16, 0x0200, 2, [1, 2, 3, 4, 5, 6, 7, 8]⟩] ∧
    certEntries ((parsed img64s).appendSignature sig3).bytes =
      some [⟨16, 0x0200, 2, [1, 2, 3, 4, 5, 6, 7, 8]⟩, ⟨11, 0x0200, 2, sig3⟩] ∧
    (parsed img64s).signatures = .ok [⟨16, 0x0200, 2, [1, 2, 3, 4, 5, 6, 7, 8]⟩] ∧
    ((parsed img64s).appendSignature sig3).signatures =
      .ok [⟨16, 0x0200, 2, [1, 2, 3, 4, 5, 6, 7, 8]⟩, ⟨11, 0x0200, 2, sig3⟩] := by
  rw [parsed_eq wf_img64s]
  decide +kernel
example : authInput ((parsed img64).appendSignature sig3).bytes = authInputPadded img64 :=
  (C03_digest_invariant img64 wf_img64 _ parse_img64 sig3 (by decide) sig3_fits.1).2

/-- `C03_signatures` needs `hbody`: the only old entry of `img8` has an empty body (dwLength = 8);
    `Signatures()` does not list it before signing, but lists it afterwards -/
example : WF img8 ∧ certEntries img8 = some [⟨8, 0x0200, 2, []⟩] ∧
    (parsed img8).signatures = .ok [] ∧
    ((parsed img8).appendSignature sig3).signatures =
      .ok [⟨8, 0x0200, 2, []⟩, ⟨11, 0x0200, 2, sig3⟩] :=
  ⟨wf_img8, img8_facts.2⟩
/-- signing an unsigned image with the empty blob leaves a table of one 8-byte entry, which the loop
    of `Signatures()` does not enter -/
theorem signatures_append_nil {b : Bytes} (h : WF b) (hc : certSize b = 0)
    (hfit : b.length + 8 + ([] : Bytes).length + 16 < 2^32) :
    ((wfParsed b).appendSignature []).signatures = .ok [] := by
  rw [appendSignature_eq h [] (by decide) hfit]
  refine signaturesAux_short _ ?_
  show (slice b (certAddr b) (certAddr b + certSize b) ++ _).length ≤ 8
  rw [table_nil hc]
  decide

/-- `C03_signatures` needs `hne` -/
example : ((parsed img64).appendSignature []).signatures = .ok [] ∧
    certEntries ((parsed img64).appendSignature []).bytes = some [⟨8, 0x0200, 2, []⟩] := by
  -- stated with `[].length` as the theorems have it: unifying it with `0` would evaluate `img64.length`
  have hfit : img64.length + 8 + ([] : Bytes).length + 16 < 2^32 := by rw [length_img64]; decide
  exact ⟨parsed_eq wf_img64 ▸ signatures_append_nil wf_img64 certSize_img64 hfit,
    (C03_entries img64 wf_img64 _ parse_img64 [] (by decide) hfit []
      (certEntries_unsigned certSize_img64)).1⟩

end NonVacuity

#print axioms C03_layout
#print axioms C03_entries
#print axioms C03_wf_preserved
#print axioms C03_digest_invariant
#print axioms C03_reparse
#print axioms C03_signatures

end GoUefi.C03

import GoUefi.Fmt
/-! C18 — regenerated tie: the boot-name format string of the current source -/
namespace GoUefi.C18
open GoUefi

/-- the format string `bootorder.Unmarshal` passes to Sprintf is "Boot" + zero-padded width-4
    upper-case hex (any spelling in that class), which is what `Impl.bootOrder` models -/
theorem C18_extracted_boot_format :
    ∀ s ∈ Fmt.formatsOf "efivarfs" "bootorder.Unmarshal", Fmt.BootFmtOk (Fmt.parse s.toList) = true := by
  decide +kernel

/-- the same for the legacy package-level `efi.GetBootOrder` (F24 repair: it used `Boot%04x\n`) -/
theorem C18_extracted_legacy_boot_format :
    ∀ s ∈ Fmt.formatsOf "efi" "GetBootOrder", Fmt.BootFmtOk (Fmt.parse s.toList) = true := by
  decide +kernel

end GoUefi.C18

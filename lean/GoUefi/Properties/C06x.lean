import GoUefi.Facts
import GoUefi.Model.VarSign
/-! C06 — regenerated tie: the WIN_CERTIFICATE_UEFI_GUID constants, the PKCS7 certificate-type GUID
    and the id-data OID of the current source are the ones the model of `SignEFIVariable` uses -/
namespace GoUefi.C06
open GoUefi

/-- Each extracted fact is absent or equals what the model assumes: header size 24, revision
    0x0200, certificate type 0x0EF1, `EFI_CERT_TYPE_PKCS7_GUID` in wire order, `OIDData`. -/
theorem C06_extracted_constants :
    Facts.constIs "efi/signature.SizeofWinCertificateUEFIGUID" 24 = true ∧
    Facts.constIs "efi/signature.WIN_CERTIFICATE_REVISION" 0x0200 = true ∧
    Facts.constIs "efi/signature.WIN_CERT_TYPE_EFI_GUID" 0x0EF1 = true ∧
    Facts.guidIs "efi/signature" "EFI_CERT_TYPE_PKCS7_GUID" Impl.guidPkcs7 = true ∧
    Facts.oidIs "pkcs7" "OIDData" Impl.oidData = true := by
  decide +kernel

/-- the facts are present in the current extraction (the tie is not vacuous) -/
example : Facts.constOf "efi/signature.SizeofWinCertificateUEFIGUID" = some 24 ∧
    (Facts.guidWireOf "efi/signature" "EFI_CERT_TYPE_PKCS7_GUID").isSome = true ∧
    (Facts.oidOf "pkcs7" "OIDData").isSome = true := by decide +kernel

#print axioms C06_extracted_constants

end GoUefi.C06

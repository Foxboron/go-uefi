import GoUefi.Gen
import GoUefi.Properties.C10
import GoUefi.Model.Guid
import GoUefi.Lemmas.GenAuthDesc
/-!
# C10 (generated tie) — the WIN_CERTIFICATE / AUTHENTICATION_2 readers and writers of the source

Translated by `tools/go2lean` from efi/signature/varsign.go: `ReadWinCertificate`,
`ReadWinCertificateUEFIGUID`, `ReadEFIVariableAuthencation2`, `EFIVariableAuthentication2.Unmarshal`,
`WriteWinCertificate`, `WriteWinCertificateUEFIGUID`, `WriteEFIVariableAuthencation2`, `Marshal`.
They compute what the Impl model (`GoUefi/Model/AuthDesc.lean`) computes, through the abstraction
`absWC`, `absWCG`, `absAuth` of `GoUefi/Lemmas/GenAuthDesc.lean` (integers to `Nat`, the type GUID and the
EFI_TIME struct to their 16 wire bytes).
-/
namespace GoUefi.C10
open GoUefi GoUefi.Gen

/-- EFI_TIME: decoding 16 bytes and encoding the value gives the 16 bytes back -/
theorem C10g_time_roundtrip (b : List UInt8) (h : b.length = 16) :
    encLE_util_EFITime (decLE_util_EFITime b) = b :=
  GenAuthDesc.encLE_decLE_time b h

theorem C10g_readWinCert (f : List UInt8) :
    match Impl.readWinCert f with
    | .ok (w, rest) => ∃ gw', signature.ReadWinCertificate f = (rest, gw', none) ∧ absWC gw' = w
    | _ => ∃ f' gw' e, signature.ReadWinCertificate f = (f', gw', some e) := by
  rw [GenAuthDesc.readWinCert_model]
  rcases signature.ReadWinCertificate f with ⟨rest, w, _ | e⟩
  · exact ⟨w, rfl, rfl⟩
  · exact ⟨_, _, _, rfl⟩

theorem C10g_readWinCertGuid (f : List UInt8) :
    match Impl.readWinCertGuid f with
    | .ok (w, rest) => ∃ gw', signature.ReadWinCertificateUEFIGUID f = (rest, gw', none) ∧ absWCG gw' = w ∧
        gw'.CertType.Data4.length = 8
    | _ => ∃ f' gw' e, signature.ReadWinCertificateUEFIGUID f = (f', gw', some e) := by
  have hm := GenAuthDesc.readWinCertGuid_model f
  rcases hg : signature.ReadWinCertificateUEFIGUID f with ⟨rest, w, _ | e⟩
  · rw [hg] at hm
    -- the model's type GUID has 16 bytes, and the wire form of a GUID has 8 in front of `Data4`
    have h16 : (encLE_util_EFIGUID w.CertType).length = 16 := ((Impl.readWinCertGuid_ensures f).of_ok hm).2.1
    rw [GenCodec.encLE_guid_length] at h16
    rw [hm]
    exact ⟨w, rfl, rfl, Nat.add_left_cancel h16⟩
  · rw [hg] at hm
    rw [hm]
    exact ⟨_, _, _, rfl⟩

/-- the descriptor reader: consumes exactly what `Impl.readAuth` consumes and recovers the same
    fields; otherwise an error -/
theorem C10g_readAuth (f : List UInt8) :
    match Impl.readAuth f with
    | .ok (d, rest) => ∃ ga, signature.ReadEFIVariableAuthencation2 f = (rest, ga, none) ∧ absAuth ga = d
    | _ => ∃ f' ga e, signature.ReadEFIVariableAuthencation2 f = (f', ga, some e) := by
  rw [GenAuthDesc.readAuth_model]
  rcases signature.ReadEFIVariableAuthencation2 f with ⟨rest, ga, _ | e⟩
  · exact ⟨ga, rfl, rfl⟩
  · exact ⟨_, _, _, rfl⟩

/-- `Impl.readAuth` never panics or exits (so the `_` case above is `.err`) -/
theorem C10g_readAuth_returns (f : List UInt8) : Impl.readAuth f ≠ .panic ∧ Impl.readAuth f ≠ .exit :=
  (Impl.readAuth_ensures f).returns

theorem C10g_unmarshal (e : signature.EFIVariableAuthentication2) (b : List UInt8) :
    match Impl.readAuth b with
    | .ok (d, rest) => ∃ ga, e.Unmarshal b = (ga, rest, none) ∧ absAuth ga = d
    | _ => ∃ b' err, e.Unmarshal b = (e, b', some err) := by
  rw [GenAuthDesc.readAuth_model]
  unfold signature.EFIVariableAuthentication2.Unmarshal
  rcases signature.ReadEFIVariableAuthencation2 b with ⟨rest, ga, _ | err⟩
  · exact ⟨ga, rfl, rfl⟩
  · exact ⟨rest, err, rfl⟩

/-! ### writers -/

theorem C10g_writeWinCert (b : List UInt8) (w : signature.WINCertificate) :
    signature.WriteWinCertificate b w = b ++ Impl.writeWinCert (absWC w) :=
  GenAuthDesc.writeWinCert_tie b w

theorem C10g_writeWinCertGuid (b : List UInt8) (w : signature.WinCertificateUEFIGUID)
    (h : w.CertType.Data4.length = 8) :
    signature.WriteWinCertificateUEFIGUID b w = b ++ Impl.writeWinCertGuid (absWCG w) := by
  have _ := h  -- (the hypothesis is not needed: the writer emits `Data4` whatever its length)
  exact GenAuthDesc.writeWinCertGuid_tie b w

theorem C10g_writeAuth (b : List UInt8) (a : signature.EFIVariableAuthentication2)
    (h : a.AuthInfo.CertType.Data4.length = 8) :
    signature.WriteEFIVariableAuthencation2 b a = b ++ Impl.writeAuth (absAuth a) ∧
    a.Marshal b = b ++ Impl.writeAuth (absAuth a) := by
  have _ := h  -- (not needed, as above)
  exact ⟨GenAuthDesc.writeAuth_tie b a, GenAuthDesc.marshal_tie b a⟩

/-- C10 for the translated code: decoding a descriptor in front of a payload and encoding the decoded
    value reproduces exactly the bytes that were consumed, and the payload is untouched. -/
theorem C10g_decode_encode (f rest : List UInt8) (ga : signature.EFIVariableAuthentication2)
    (h : signature.ReadEFIVariableAuthencation2 f = (rest, ga, none)) :
    ga.Marshal [] ++ rest = f := by
  rw [GenAuthDesc.marshal_tie, List.nil_append]
  exact (Impl.readAuth_eq_ok.mp (GenAuthDesc.readAuth_tie_iff.mp h)).2.symm

/-! ### non-vacuity -/
example : (signature.ReadEFIVariableAuthencation2
    (Spec.encAuth ⟨zeros 16, 27, 0x0200, 0x0EF1, zeros 16, [1, 2, 3]⟩ ++ [9, 9])).2.2 = none := by
  decide +kernel
example : (signature.ReadEFIVariableAuthencation2
    (Spec.encAuth ⟨zeros 16, 27, 0x0200, 0x0EF1, zeros 16, [1, 2, 3]⟩ ++ [9, 9])).1 = [9, 9] := by
  decide +kernel
example : (signature.ReadWinCertificate [3, 0, 0, 0, 0, 2, 2, 0]).2.2 = some "%w:ErrParse" := by
  decide +kernel

end GoUefi.C10

#print axioms GoUefi.C10.C10g_time_roundtrip
#print axioms GoUefi.C10.C10g_readWinCert
#print axioms GoUefi.C10.C10g_readWinCertGuid
#print axioms GoUefi.C10.C10g_readAuth
#print axioms GoUefi.C10.C10g_readAuth_returns
#print axioms GoUefi.C10.C10g_unmarshal
#print axioms GoUefi.C10.C10g_writeWinCert
#print axioms GoUefi.C10.C10g_writeWinCertGuid
#print axioms GoUefi.C10.C10g_writeAuth
#print axioms GoUefi.C10.C10g_decode_encode

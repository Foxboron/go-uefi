import GoUefi.Lemmas.MultiFault
/-!
# C01 (reader part) — the digest does not depend on how a conforming reader reports the end

`PECOFFBinary.Hash` streams the parts through `io.Copy(h, io.NewSectionReader(multi, 0, size))`.
`io.ReaderAt` allows a reader to report `io.EOF` together with a read that delivered everything
asked for (a read that ends exactly at the end of the underlying file).  Before the F21 repair
`multi.ReadAt` returned such an `io.EOF` without the bytes of that read, and `io.Copy` took it for
the end of the stream: the digest of a prefix was returned with no error.

Model: `GoUefi/Model/MultiFault.lean` (`multiReadAtE`, `copyAllE`, `hashInputE`; the code before
the repair as `multiReadAtOld`, `copyAllOld`).  Helper lemmas: `GoUefi/Lemmas/MultiFault.lean`.
-/
namespace GoUefi.C01
open GoUefi GoUefi.Impl

/-- Through ANY reader that delivers the requested bytes, whether or not it reports `io.EOF`
    together with a read (at any read, any number of times), `Hash` digests exactly the
    concatenation of the parts — which `C01_impl_eq_spec` equates with the specification's hash
    input — for every positive buffer size of `io.Copy`. -/
theorem C01_conforming_reader (env : Impl.RdEnv) (hd : env.Delivers) (parts : List Bytes)
    (chunk : Nat) (hc : 0 < chunk) :
    Impl.hashInputE env parts chunk = some (Impl.multiParts parts).flatten := by
  rw [Impl.hashInputE_eq,
      Impl.copyAllE_exact env (Impl.multiParts parts) chunk hc _ 0 0 (by omega) (.inr hd),
      List.drop_zero]
  rfl

/-- The same result, stated against the fault-free model of `GoUefi/Model/Pe.lean`: a conforming
    reader is indistinguishable from the ideal one. -/
theorem C01_conforming_reader_eq_pure (env : Impl.RdEnv) (hd : env.Delivers) (parts : List Bytes)
    (chunk : Nat) (hc : 0 < chunk) :
    Impl.hashInputE env parts chunk =
      some (Impl.copyAll (Impl.multiParts parts) chunk
        ((Impl.multiParts parts).flatten.length + 1) 0) := by
  rw [C01_conforming_reader env hd parts chunk hc,
      Impl.copyAll_eq (Impl.multiParts parts) chunk hc _ _ (by omega), List.drop_zero]

/-- A single positional read through a delivering reader: exactly the requested window of the
    concatenation, no error (the counterpart of `C01_multi_readAt`). -/
theorem C01_conforming_readAt (env : Impl.RdEnv) (hd : env.Delivers) (ps : List Bytes)
    (off len k : Nat) (h : off + len ≤ ps.flatten.length) :
    ∃ k', Impl.multiReadAtE env ps off len k = ((ps.flatten.drop off).take len, .none, k') :=
  Impl.multiReadAtE_exact env ps off len k h (.inr hd)

/-- The repaired `multi.ReadAt` never passes `io.EOF` on to `io.Copy`, whatever the reader does. -/
theorem C01_readAt_never_eof (env : Impl.RdEnv) (ps : List Bytes) (off len k : Nat) :
    (Impl.multiReadAtE env ps off len k).2.1 ≠ .eof :=
  Impl.multiReadAtE_ne_eof env ps off len k

example : Impl.envOk.Delivers := Impl.envOk_delivers
example : (Impl.envEofWith 1).Delivers := Impl.envEofWith_delivers 1
example : (Impl.envEofWith 1).Contract := (Impl.envEofWith_delivers 1).contract

example : Impl.hashInputE (Impl.envEofWith 2) [[1, 2, 3], [], [4, 5], [6]] 2 =
    some (Impl.multiParts [[1, 2, 3], [], [4, 5], [6]]).flatten :=
  C01_conforming_reader _ (Impl.envEofWith_delivers 2) _ 2 (by decide)
/-- the empty part is skipped, `io.EOF` with read 2 changes nothing -/
example : Impl.hashInputE (Impl.envEofWith 2) [[1, 2, 3], [], [4, 5], [6]] 2 =
    some [1, 2, 3, 4, 5, 6] := by decide +kernel
example : (List.range 8).all (fun j => [1, 2, 4, 7].all fun chunk =>
    Impl.hashInputE (Impl.envEofWith j) [[1, 2, 3], [], [4, 5], [6]] chunk ==
      some [1, 2, 3, 4, 5, 6]) = true := by decide +kernel
/-- a single read across two part boundaries with `io.EOF` reported by the middle part read -/
example : Impl.multiReadAtE (Impl.envEofWith 1) [[1, 2], [3], [4, 5, 6]] 1 4 0 =
    ([2, 3, 4, 5], .none, 3) := by decide +kernel

/-- Before F21: the reader reports `io.EOF` together with read 2 (which delivers its byte); the
    old `multi.ReadAt` drops the bytes of that read and returns `io.EOF`, `io.Copy` returns nil,
    and `[1, 2, 3]` — a proper prefix of the stream — is digested without any error. -/
example : Impl.copyAllOld (Impl.envEofWith 2) [[1, 2, 3], [4, 5], [6]] 2 7 0 0 =
    ([1, 2, 3], .none) ∧ [1, 2, 3] ≠ [[1, 2, 3], [4, 5], [6]].flatten := by decide +kernel
example : Impl.copyAllE (Impl.envEofWith 2) [[1, 2, 3], [4, 5], [6]] 2 7 0 0 =
    ([1, 2, 3, 4, 5, 6], .none) := by decide +kernel
/-- before F21 wherever the `io.EOF` is reported, except with the very last read (number 5), a proper
    prefix is digested, silently -/
example : (List.range 5).all (fun j =>
    let r := Impl.copyAllOld (Impl.envEofWith j) [[1, 2, 3], [4, 5], [6]] 2 7 0 0
    r.2 == .none && r.1.length < 6 && r.1 == [1, 2, 3, 4, 5, 6].take r.1.length) = true := by decide +kernel

#print axioms C01_conforming_reader
#print axioms C01_conforming_reader_eq_pure
#print axioms C01_conforming_readAt
#print axioms C01_readAt_never_eof

end GoUefi.C01

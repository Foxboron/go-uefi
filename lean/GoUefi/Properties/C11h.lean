import GoUefi.Properties.C11g
/-!
# C11 (generated tie, second part) — the attribute word on the wire, and write-then-read

The buffer of a variable write is "the 4-byte little-endian attributes followed by the data"; the
source builds the first half with `Attributes.Bytes` / `Attributes.Unmarshal`
(`efi/attributes/attributes.go`, translated by `tools/go2lean` on every run) and reads it back with
`ParseEfivars` (`C11g_parse_*`).  Stated here, for EVERY attribute word and every data:

* `C11h_attr_bytes` / `C11h_attr_unmarshal`: the encoder writes exactly the four little-endian bytes of
  the word (`Unmarshal` appends them to whatever the buffer holds and touches nothing in front);
* `C11h_attr_bytes_inj`: distinct words have distinct encodings; `C11h_attr_bytes_decode`;
* `C11h_write_then_parse`: a file that starts with `a.Bytes ++ data`, whatever follows, read with the
  declared size `4 + |data|`, gives back exactly `a` and `data` and leaves what follows in the reader —
  the translated encoder and both translated copies of the reader are inverse to each other;
* `C11h_parse_then_write`: conversely whatever a successful `ParseEfivars` returns re-encodes to the
  first `size` bytes of the file.
-/
namespace GoUefi.C11
open GoUefi GoUefi.Gen GoUefi.GenCodec

theorem C11h_attr_unmarshal (a : attributes.Attributes) (b : List UInt8) :
    attributes.Attributes.Unmarshal a b = b ++ le32 a.toNat := rfl

theorem C11h_attr_bytes (a : attributes.Attributes) :
    attributes.Attributes.Bytes a = le32 a.toNat := rfl

theorem C11h_attr_bytes_length (a : attributes.Attributes) :
    (attributes.Attributes.Bytes a).length = 4 := by rw [C11h_attr_bytes]; rfl

theorem C11h_attr_bytes_decode (a : attributes.Attributes) :
    decLE32 (attributes.Attributes.Bytes a) = a := by
  rw [C11h_attr_bytes, ← encLE32_eq, decLE32_encLE32]

theorem C11h_attr_bytes_inj (a b : attributes.Attributes) :
    attributes.Attributes.Bytes a = attributes.Attributes.Bytes b ↔ a = b := by
  constructor
  · intro h
    have := congrArg decLE32 h
    rwa [C11h_attr_bytes_decode, C11h_attr_bytes_decode] at this
  · rintro rfl; rfl

/-- write, then read with the declared size: the attribute word and the data come back, and only
    they are consumed -/
theorem C11h_write_then_parse (a : attributes.Attributes) (data tail : List UInt8) :
    attributes.ParseEfivars (attributes.Attributes.Bytes a ++ data ++ tail) (4 + (data.length : Int)) =
      (tail, a, data, none) := by
  have hl := C11h_attr_bytes_length a
  have hsz : (4 + (data.length : Int)).toNat = 4 + data.length := Int.toNat_natCast (4 + data.length)
  rw [C11g_parse_ok _ _ (Int.le_add_of_nonneg_right (Int.natCast_nonneg _)) (by simp [hsz, hl]), hsz,
    List.drop_left' (l₁ := attributes.Attributes.Bytes a ++ data) (by rw [List.length_append, hl]),
    List.append_assoc, List.take_left' hl, List.drop_left' hl, Nat.add_sub_cancel_left,
    List.take_left' rfl, C11h_attr_bytes_decode]

/-- the second copy of the reader (`fswrapper.FSWrapper.ParseEfivars`) too -/
theorem C11h_write_then_parse_wrapper (t : fswrapper.FSWrapper) (a : attributes.Attributes)
    (data tail : List UInt8) :
    fswrapper.FSWrapper.ParseEfivars t (attributes.Attributes.Bytes a ++ data ++ tail)
      (4 + (data.length : Int)) = (tail, a, data, none) := by
  rw [C11g_parse_twins, C11h_write_then_parse]

/-- read, then write: what a successful read returns re-encodes to the first `size` bytes -/
theorem C11h_parse_then_write (f : List UInt8) (size : Int) (hs : 4 ≤ size) (hf : size.toNat ≤ f.length) :
    attributes.Attributes.Bytes (attributes.ParseEfivars f size).2.1 ++
      (attributes.ParseEfivars f size).2.2.1 = f.take size.toNat := by
  have h4 := four_le_toNat hs
  rw [C11g_parse_ok f size hs hf]
  show attributes.Attributes.Bytes (decLE32 (f.take 4)) ++ (f.drop 4).take (size.toNat - 4) = _
  rw [C11h_attr_bytes, ← encLE32_eq, encLE32_decLE32 _ (List.length_take_of_le (Nat.le_trans h4 hf)),
    ← List.take_add, Nat.add_sub_cancel' h4]

example : attributes.Attributes.Bytes 0x27 = [0x27, 0, 0, 0] := by decide +kernel
example : attributes.ParseEfivars (attributes.Attributes.Bytes 0x67 ++ [1, 2, 3] ++ [9]) 7 =
    ([9], 0x67, [1, 2, 3], none) := C11h_write_then_parse 0x67 [1, 2, 3] [9]

end GoUefi.C11

#print axioms GoUefi.C11.C11h_attr_unmarshal
#print axioms GoUefi.C11.C11h_attr_bytes
#print axioms GoUefi.C11.C11h_attr_bytes_length
#print axioms GoUefi.C11.C11h_attr_bytes_decode
#print axioms GoUefi.C11.C11h_attr_bytes_inj
#print axioms GoUefi.C11.C11h_write_then_parse
#print axioms GoUefi.C11.C11h_write_then_parse_wrapper
#print axioms GoUefi.C11.C11h_parse_then_write

import GoUefi.Properties.C04x
/-! C05 — regenerated tie: the object identifiers of the current source are the ones the model uses -/
namespace GoUefi.C05
open GoUefi

theorem C05_extracted_oids :
    Facts.oidIs "pkcs7" "OIDData" Impl.oidData = true ∧
    Facts.oidIs "pkcs7" "OIDSignedData" Impl.oidSignedData = true ∧
    Facts.oidIs "pkcs7" "OIDDigestAlgorithmSHA256" Impl.oidSha256 = true ∧
    Facts.oidIs "pkcs7" "OIDEncryptionAlgorithmRSA" Impl.oidRsa = true ∧
    Facts.oidIs "pkcs7" "OIDAttributeContentType" Impl.oidContentType = true ∧
    Facts.oidIs "pkcs7" "OIDAttributeMessageDigest" Impl.oidMessageDigest = true ∧
    Facts.oidIs "pkcs7" "OIDAttributeSigningTime" Impl.oidSigningTime = true :=
  C04.C04_extracted_oids

end GoUefi.C05

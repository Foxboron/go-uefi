import GoUefi.Lemmas.SigDb
/-!
# C07 — encoder and decoder of the signature database are inverse on well-formed data

`Impl.readDb` / `Impl.encDb` (model of `ReadSignatureDatabase` / `WriteSignatureDatabase`, see
`GoUefi/Model/SigDb.lean`) against the specification codec `GoUefi.Spec`.  Here are the property
theorems, the history predicate `Appended` that `C07_appended_decodes` is stated over, and the
non-vacuity examples; helper lemmas are in `GoUefi/Lemmas/SigDb.lean`.
-/
namespace GoUefi.C07
open GoUefi

/-- On every stream that the specification accepts and whose lists all pass the per-type switch of
    `ReadSignatureList` (`Impl.handled`: a type it decodes, no header, the signature size of that
    type), the reader returns exactly the specified value (with the size fields the specification
    derives), and writing that value back yields the input byte for byte. -/
theorem C07_decode_exact {bs : Bytes} {ls : List Spec.SList} (h : Spec.decodeDb bs = some ls)
    (hh : ∀ l ∈ ls, Impl.handled l.type l.hdr.length l.size = true) :
    Impl.readDb bs = some (ls.map Impl.ofSpec) ∧ Impl.encDb (ls.map Impl.ofSpec) = bs := by
  refine ⟨Impl.decodeDb_readDb h hh, ?_⟩
  rw [Impl.encDb_ofSpec]
  exact (Spec.decodeDb_ok h).1

/-- What the implementation writes for a database that satisfies the C09 invariant is a
    well-formed stream denoting exactly that database; if all lists pass the decoder's per-type
    switch, reading it back returns the database itself.

    PARTIAL: `db.Inv` and `listSize < 2^32` alone do not suffice.  A list *without entries* has
    `listSize = 28` whatever its `size` field, so a `size` of 33 bits survives both and is truncated
    by the 4-byte encoder (counterexample below).  The hypothesis `l.sigs = [] → l.size < 2^32` is
    exactly what is missing: for a list with entries `size ≤ listSize` follows from the invariant. -/
theorem C07_built_wf_partial {db : Impl.Db} (hinv : db.Inv)
    (hb : ∀ l ∈ db, l.listSize < 2^32 ∧ (l.sigs = [] → l.size < 2^32)) :
    Spec.decodeDb (Impl.encDb db) = some (db.map Impl.SList.toSpec) ∧
    ((∀ l ∈ db, Impl.handled l.type 0 l.size = true) → Impl.readDb (Impl.encDb db) = some db) := by
  have hsz : ∀ l ∈ db, l.size < 2^32 := fun l hl => (hinv l hl).size_lt (hb l hl).1 (hb l hl).2
  have hcanon : ∀ l ∈ db, l.Canon := fun l hl => (hinv l hl).canon
  exact ⟨Impl.decodeDb_encDb fun l hl => ⟨hcanon l hl, (hb l hl).1, hsz l hl⟩,
    fun hh => Impl.readDb_enc db fun l hl => ⟨hcanon l hl, (hb l hl).1, hsz l hl, hh l hl⟩⟩

/-- without that hypothesis the statement is false: an entry-less X.509 list whose `size` field
    needs 33 bits satisfies the invariant and `listSize < 2^32`, but is read back with size 16 -/
example : ∃ db : Impl.Db, db.Inv ∧ (∀ l ∈ db, l.listSize < 2^32) ∧
    (∀ l ∈ db, Impl.handled l.type 0 l.size = true) ∧
    Impl.readDb (Impl.encDb db) ≠ some db :=
  ⟨[⟨Impl.guidX509, 28, 0, 2^32 + 16, [], []⟩],
   List.forall_mem_singleton.mpr
     ⟨by decide, rfl, rfl, by decide, by decide, (fun _ h => nomatch h), .nil⟩,
   by decide, by decide, by decide +kernel⟩

set_option linter.unusedVariables false in
/-- `C07_built_wf_partial` for every database a client can build (`Impl.Reachable`: empty or decoded,
    then edited by append / remove / append-list), provided its size fields fit the 32-bit wire
    fields.  (`hidem` is not used: the invariant holds for every normalisation,
    `Impl.Reachable.inv_raw`.) -/
theorem C07_reachable_roundtrip {E : Impl.Env} (hidem : E.Idem) {db : Impl.Db}
    (hr : Impl.Reachable E db)
    (hb : ∀ l ∈ db, l.listSize < 2^32 ∧ (l.sigs = [] → l.size < 2^32)) :
    Spec.decodeDb (Impl.encDb db) = some (db.map Impl.SList.toSpec) ∧
    ((∀ l ∈ db, Impl.handled l.type 0 l.size = true) → Impl.readDb (Impl.encDb db) = some db) :=
  C07_built_wf_partial hr.inv_raw hb

/-- **Built databases decode back** (possible since the F37 repair).  Every database built through
    the library's own operations over the types the decoder handles — starting empty or from a decoded
    duplicate-free stream; `Append` of an X.509, SHA-256 or externally-managed entry; `Remove`;
    `AppendList` of a list of such a type that was itself built by `NewSignatureList` and at least one
    successful `AppendBytes` — encodes to a well-formed stream (the specification codec reads exactly
    its lists) and the implementation's decoder returns the database itself.

    No hypothesis about the sizes of the entries, about the normalisation function, or about which
    types are present in the result (all of that is proved: `Impl.BuiltOver.sized`, `.types`,
    `.reachable`).  What remains assumed: every `ListSize` fits its 4-byte field (Go computes it in
    `uint32`), owners are 16 bytes (always true of the Go struct), decoded starts are duplicate-free;
    and a list that `NewSignatureList` made and nothing was appended to is not among the lists
    `AppendList` may be given (known finding F20, counterexamples below).

    Before the repair this was false: `[] —Append(EXTERNAL_MANAGEMENT, o, [1,2])→ db` succeeded and
    `readDb (encDb db) = none`. -/
theorem C07_built_roundtrip {E : Impl.Env} {db : Impl.Db}
    (hb : Impl.BuiltOver E Impl.HandledType db) (h32 : ∀ l ∈ db, l.listSize < 2^32) :
    Spec.decodeDb (Impl.encDb db) = some (db.map Impl.SList.toSpec) ∧
    Impl.readDb (Impl.encDb db) = some db := by
  have h := C07_built_wf_partial hb.reachable.inv_raw fun l hl => ⟨h32 l hl, (hb.sized l hl).2.2⟩
  exact ⟨h.1, h.2 fun l hl => (hb.sized l hl).handled (hb.types l hl)⟩

/-- The special case of `BuiltOver`: from the empty database, any number of successful `Append`s of
    handled types (any owners of 16 bytes, any data, PEM or not). -/
inductive Appended (E : Impl.Env) : Impl.Db → Prop
  | empty : Appended E []
  | append {db db' : Impl.Db} {t o d : Bytes} : Appended E db → o.length = 16 →
      (t = Impl.guidX509 ∨ t = Impl.guidSha256 ∨ t = Impl.guidExternal) →
      db.append E t o d = .ok db' → Appended E db'

theorem Appended.built {E : Impl.Env} {db : Impl.Db} (h : Appended E db) :
    Impl.BuiltOver E Impl.HandledType db := by
  induction h with
  | empty => exact .empty
  | append _ ho ht ha ih => exact .append ih ho ht ha

theorem C07_appended_decodes {E : Impl.Env} {db : Impl.Db} (h : Appended E db)
    (h32 : ∀ l ∈ db, l.listSize < 2^32) : Impl.readDb (Impl.encDb db) = some db :=
  (C07_built_roundtrip h.built h32).2

/-- For the types the decoder does NOT handle the first half still holds (the stream is well-formed
    and denotes the database), for every type in `ValidEFISignatureSchemes` or outside it. -/
theorem C07_built_wf {E : Impl.Env} {T : Bytes → Prop} {db : Impl.Db}
    (hb : Impl.BuiltOver E T db) (h32 : ∀ l ∈ db, l.listSize < 2^32) :
    Spec.decodeDb (Impl.encDb db) = some (db.map Impl.SList.toSpec) :=
  (C07_built_wf_partial hb.reachable.inv_raw
    (fun l hl => ⟨h32 l hl, (hb.sized l hl).2.2⟩)).1

/-- the size rule is what the type-agnostic invariant of C09 lacks: an externally-managed list of
    signature size 18 satisfies `Inv`, encodes to a well-formed stream, and is not decoded — this is
    the database the unrepaired `Append` built (F37) -/
example : ∃ db : Impl.Db, db.Inv ∧ (∀ l ∈ db, l.listSize < 2^32) ∧
    (∀ l ∈ db, Impl.HandledType l.type) ∧
    Spec.decodeDb (Impl.encDb db) = some (db.map Impl.SList.toSpec) ∧
    Impl.readDb (Impl.encDb db) = none :=
  have hinv : Impl.Db.Inv [⟨Impl.guidExternal, 46, 0, 18, [], [⟨Ex.owner1, [1, 2]⟩]⟩] :=
    List.forall_mem_singleton.mpr ⟨by decide, rfl, rfl, by decide, by decide, by decide, by decide⟩
  ⟨_, hinv, by decide, List.forall_mem_singleton.mpr (Or.inr (Or.inr rfl)),
   (C07_built_wf_partial hinv (by decide)).1, by decide +kernel⟩

/-- known finding F20 (not repaired): `AppendList` of a list nothing was appended to.  Its signature
    size is 0; the 28 bytes it encodes to are no well-formed list and are not decoded.  `ListBuilt`
    (at least one successful `AppendBytes`) is exactly what excludes it. -/
example : Spec.decodeDb (Impl.encDb (Impl.Db.appendList [] (Impl.newList Impl.guidSha256))) = none ∧
    Impl.readDb (Impl.encDb (Impl.Db.appendList [] (Impl.newList Impl.guidSha256))) = none ∧
    Spec.decodeDb (Impl.encDb (Impl.Db.appendList [] (Impl.newList Impl.guidX509))) = none := by
  decide +kernel

/-! ### non-vacuity: the two-list database `Ex.db` and its 144-byte wire form `Ex.bytes` -/

section
open GoUefi.Ex   -- the (scoped) `DecidableEq (Except _ _)` used by `decide` below
/-- `C07_built_roundtrip` / `C07_appended_decodes`: a database of all three handled types built by
    four `Append`s from the empty one -/
example : ∃ db : Impl.Db, Appended Ex.env db ∧ db.length = 3 ∧ (∀ l ∈ db, l.listSize < 2^32) := by
  let e1 : Impl.SList := ⟨Impl.guidExternal, 45, 0, 17, [], [⟨Ex.owner1, [1]⟩]⟩
  let e2 : Impl.SList := ⟨Impl.guidExternal, 62, 0, 17, [], [⟨Ex.owner1, [1]⟩, ⟨Ex.owner2, [1]⟩]⟩
  let x : Impl.SList := ⟨Impl.guidX509, 48, 0, 20, [], [⟨Ex.owner1, [1, 2, 3, 4]⟩]⟩
  refine ⟨[e2, Ex.shaList, x], ?_, rfl, by decide⟩
  exact .append (db := [e2, Ex.shaList]) (t := Impl.guidX509) (o := Ex.owner1) (d := [1, 2, 3, 4])
    (.append (db := [e2]) (t := Impl.guidSha256) (o := Ex.owner1) (d := List.replicate 32 0xAA)
      (.append (db := [e1]) (t := Impl.guidExternal) (o := Ex.owner2) (d := [1])
        (.append (db := []) (t := Impl.guidExternal) (o := Ex.owner1) (d := [1]) .empty
          (by decide) (Or.inr (Or.inr rfl)) (by decide +kernel))
        (by decide) (Or.inr (Or.inr rfl)) (by decide +kernel))
      (by decide) (Or.inr (Or.inl rfl)) (by decide +kernel))
    (by decide) (Or.inl rfl) (by decide +kernel)
end

/-- hypotheses of `C07_decode_exact` -/
example : Spec.decodeDb Ex.bytes = some (Ex.db.map Impl.SList.toSpec) ∧
    ∀ l ∈ Ex.db.map Impl.SList.toSpec, Impl.handled l.type l.hdr.length l.size = true :=
  ⟨Ex.decodeDb_bytes, by decide +kernel⟩

/-- hypotheses of `C07_built_wf_partial` (the invariant via decoding, see C09) -/
example : Ex.db.Inv ∧ (∀ l ∈ Ex.db, l.listSize < 2^32 ∧ (l.sigs = [] → l.size < 2^32)) ∧
    (∀ l ∈ Ex.db, Impl.handled l.type 0 l.size = true) :=
  ⟨Ex.db_inv, by decide +kernel, by decide +kernel⟩

end GoUefi.C07

#print axioms GoUefi.C07.C07_decode_exact
#print axioms GoUefi.C07.C07_built_wf_partial
#print axioms GoUefi.C07.C07_reachable_roundtrip
#print axioms GoUefi.C07.C07_built_roundtrip
#print axioms GoUefi.C07.C07_appended_decodes
#print axioms GoUefi.C07.C07_built_wf

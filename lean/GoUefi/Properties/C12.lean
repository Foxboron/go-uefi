import GoUefi.Lemmas.Store
/-!
# C12 — the in-memory store is a register per variable

Model: `GoUefi/Model/Store.lean` (efivarfs/testfs after the F11 repair: a write replaces
the variable).  Operations `Impl.Op` (`write v b`, `signed v desc payload`, `read v`), their effect
`Impl.step`, `Impl.lastWrite` / `Impl.lastValue` (the most recent write to a variable and its value
argument), the well-formedness `Impl.Op.WF` / `Impl.History.WF` and all helper lemmas are in
`GoUefi/Lemmas/Store.lean`; here are the property theorems and their non-vacuity examples (with
`readAuth_exDesc`, the one fact about the example descriptor that they and `C12g.lean` share).

`History.WF ops`: every operation of the history is what the library hands to the store
(`Impl.Op.WF`: a database under PK/KEK/db/dbx, a signed update whose descriptor parses and leaves a
database); nothing about the initial store (it is not a parameter), nothing about other variables.
-/
namespace GoUefi.C12
open GoUefi GoUefi.Impl

/-- A signature-database encoding never parses as an authentication descriptor (the empty database
    is too short; otherwise bytes 20–21 — the low half of the first list's HeaderSize — are 0 where
    a descriptor needs wRevision 0x0200), so the store keeps a written database exactly as it is,
    under every variable name. -/
theorem C12_db_is_not_a_descriptor {b : Bytes} {db : Db} (h : readDb b = some db) :
    (∀ x, readAuth b ≠ .ok x) ∧ readAuth b = .err ∧ ∀ v, storedValue v b = b := by
  refine ⟨fun x hx => ?_, readAuth_of_readDb h, fun v => storedValue_of_readDb v h⟩
  rw [readAuth_of_readDb h] at hx
  nomatch hx

/-- The store is one register per variable, with the weakest hypothesis that works: after ANY
    history run from ANY store, a typed read of `v` returns the value argument of the most recent
    write to `v`, provided that one write is well formed; everything before it, and every operation
    on other variables, is arbitrary. -/
theorem C12_register_last (ops : List Op) (s : Store) (v : String) (op : Op)
    (hl : lastWrite ops v = some op) (hwf : op.WF) :
    op ∈ ops ∧ op.target = some v ∧ lastValue ops v = some op.value ∧
    (ops.foldl step s).read v = .ok op.value :=
  ⟨(lastWrite_mem hl).1, (lastWrite_mem hl).2, by rw [lastValue, hl]; rfl,
   read_foldl_of_lastWrite hl hwf⟩

/-- For a history that is well formed throughout: a typed read of `v` returns the value argument of
    the most recent write to `v` — for secure-boot variables the database encoding that was written,
    resp. the signed update's payload with the descriptor removed — and the initial content when no
    operation wrote `v`. -/
theorem C12_register (ops : List Op) (s : Store) (v : String) (hwf : History.WF ops) :
    (∀ b, lastValue ops v = some b → (ops.foldl step s).read v = .ok b) ∧
    ((∀ op ∈ ops, op.target ≠ some v) → (ops.foldl step s).read v = s.read v) := by
  refine ⟨fun b hb => ?_, fun hno => read_foldl_of_none ((lastWrite_eq_none_iff ops v).2 hno)⟩
  obtain ⟨op, hl, rfl⟩ := Option.map_eq_some_iff.mp hb
  exact (C12_register_last ops s v op hl (hwf op (lastWrite_mem hl).1)).2.2.2

/-- `lastValue` is "most recent": appending an operation that writes `v` makes its value the last
    one; any other operation leaves it alone; and there is none iff no operation wrote `v`. -/
theorem C12_lastValue_spec (ops : List Op) (op : Op) (v : String) :
    lastValue (ops ++ [op]) v = (if op.target = some v then some op.value else lastValue ops v) ∧
    (lastValue ops v = none ↔ ∀ o ∈ ops, o.target ≠ some v) := by
  refine ⟨?_, by rw [lastValue, Option.map_eq_none_iff, lastWrite_eq_none_iff]⟩
  rw [lastValue, lastWrite_append, apply_ite (Option.map Op.value)]
  rfl

/-- Writes (plain or signed, well formed or not) to another variable do not change what is read
    from `v`. -/
theorem C12_independent (s : Store) (v w : String) (h : w ≠ v) (b desc payload : Bytes) :
    (s.writeVar w b).read v = s.read v ∧ (s.writeSigned w desc payload).read v = s.read v :=
  ⟨Store.read_congr (Store.get_put_ne s h _), Store.read_congr (Store.get_put_ne s h _)⟩

/-- Writing a shorter value after a longer one reads back the shorter value, not the shorter
    value followed by the tail of the longer one (the case that failed before the F11 repair).
    Nothing is assumed about the first value. -/
theorem C12_shrink (s : Store) (v : String) (b1 b2 : Bytes) (_hlen : b2.length < b1.length)
    (h2 : isSecureBootVar v = true → ∃ db, readDb b2 = some db) :
    ((s.writeVar v b1).writeVar v b2).read v = .ok b2 :=
  (C12_register_last [.write v b1, .write v b2] s v (.write v b2)
    (by simp [lastWrite, Op.target]) h2).2.2.2

/-- F23 repair: a signed update stores the bytes behind the descriptor as they are — whatever
    they are (a database with list types the decoder does not handle, or no database at all).
    No decodability hypothesis: the store no longer decodes and re-encodes the payload. -/
theorem C12_signed_keeps_payload (s : Store) (v : String) (desc payload : Bytes) (d : AuthDesc)
    (hv : isSecureBootVar v = true) (ha : readAuth (desc ++ payload) = .ok (d, payload)) :
    (s.writeSigned v desc payload).get v = some payload := by
  unfold Store.writeSigned
  rw [Store.get_put_same, storedValue_signed hv ha]

/-! ### non-vacuity: concrete values (`Ex.bytes`: the 144-byte two-list database of C08) -/

/-- the 43-byte descriptor of the examples (here and in `C12g.lean`) parses in front of any payload
    and leaves exactly it -/
theorem readAuth_exDesc (p : Bytes) :
    readAuth (Spec.encAuth ⟨zeros 16, 27, 0x0200, 0x0EF1, zeros 16, [1, 2, 3]⟩ ++ p) =
      .ok (⟨zeros 16, ⟨⟨27, 0x0200, 0x0EF1, []⟩, zeros 16, [1, 2, 3]⟩⟩, p) :=
  readAuth_eq_ok.mpr ⟨by decide, by rw [writeAuth_eq_encAuth _ rfl]⟩

/-- a decodable database, and a descriptor in front of it that parses leaving exactly it -/
example : readDb Ex.bytes = some Ex.db := Ex.readDb_bytes
example : ∃ d, readAuth (Spec.encAuth ⟨zeros 16, 27, 0x0200, 0x0EF1, zeros 16, [1, 2, 3]⟩ ++ Ex.bytes) =
    .ok (d, Ex.bytes) :=
  ⟨_, readAuth_exDesc _⟩
/-- a well-formed history with all three kinds of operation, on secure-boot and other variables -/
example : History.WF
    [.write "db" Ex.bytes, .write "Boot0001" [1, 2, 3], .read "db",
     .signed "db" (Spec.encAuth ⟨zeros 16, 27, 0x0200, 0x0EF1, zeros 16, [1, 2, 3]⟩) (Ex.bytes.take 76),
     .write "Boot0001" [9]] := by
  intro op hop
  simp only [List.mem_cons, List.not_mem_nil, or_false] at hop
  rcases hop with rfl | rfl | rfl | rfl | rfl
  · exact fun _ => ⟨Ex.db, Ex.readDb_bytes⟩
  · intro h; exact absurd h (by decide)
  · trivial
  · exact ⟨by decide, ⟨_, readAuth_exDesc _⟩, ⟨[Ex.shaList], Ex.readDb_prefix⟩⟩
  · intro h; exact absurd h (by decide)
/-- … whose last values are what one expects -/
example : lastValue [.write "db" Ex.bytes, .write "Boot0001" [1, 2, 3], .read "db",
     .signed "db" (Spec.encAuth ⟨zeros 16, 27, 0x0200, 0x0EF1, zeros 16, [1, 2, 3]⟩) (Ex.bytes.take 76),
     .write "Boot0001" [9]] "db" = some (Ex.bytes.take 76) := by decide +kernel
example : lastValue [.write "db" Ex.bytes, .write "Boot0001" [1, 2, 3], .write "Boot0001" [9]] "Boot0001" =
    some [9] := by decide
example : lastValue [.write "db" Ex.bytes, .read "KEK"] "KEK" = none := by decide
/-- the store computes: shrink on a raw variable, starting from a store that already holds it -/
example : ((Store.writeVar [("Boot0001", [7, 7, 7, 7, 7])] "Boot0001" [1, 2, 3]).writeVar "Boot0001" [9]).read "Boot0001" =
    .ok [9] := by decide +kernel
/-- the hypothesis of `C12_register` on secure-boot variables is needed: a plain write of bytes
    that are not a database reads back as an error, not as the bytes -/
example : (Store.writeVar [] "db" [1, 2, 3]).read "db" = .err := by decide
/-- … and a signed write to a variable that is not a secure-boot variable keeps the descriptor -/
example : (Store.writeSigned [] "Boot0001" [1, 2] [3]).read "Boot0001" = .ok [1, 2, 3] := by
  decide +kernel

end GoUefi.C12

#print axioms GoUefi.C12.C12_db_is_not_a_descriptor
#print axioms GoUefi.C12.C12_register
#print axioms GoUefi.C12.C12_register_last
#print axioms GoUefi.C12.C12_lastValue_spec
#print axioms GoUefi.C12.C12_independent
#print axioms GoUefi.C12.C12_shrink
#print axioms GoUefi.C12.C12_signed_keeps_payload

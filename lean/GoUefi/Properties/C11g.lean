import GoUefi.Gen
import GoUefi.Lemmas.VarFs
import GoUefi.Lemmas.GenCodec
/-!
# C11 (generated tie) — the attribute subset test and `ParseEfivars` of the current source

`Attributes.Equal` (efi/attributes/attributes.go) translated by `tools/go2lean` is the model's
`Impl.attrsSubset`: "every required bit is present in the stored mask".
-/
namespace GoUefi.C11
open GoUefi GoUefi.Gen

theorem C11g_equal (a b : attributes.Attributes) :
    attributes.Attributes.Equal a b = Impl.attrsSubset a.toNat b.toNat := by
  rw [Bool.eq_iff_iff, Impl.attrsSubset_iff a.toNat b.toNat (UInt32.toNat_lt a)]
  unfold attributes.Attributes.Equal
  rw [beq_iff_eq, ← UInt32.toNat_and, UInt32.toNat_inj]

/-- bit-level reading: `Equal a b` iff every bit set in `a` is set in `b` -/
theorem C11g_equal_iff (a b : attributes.Attributes) :
    attributes.Attributes.Equal a b = true ↔ a &&& b = a := by
  unfold attributes.Attributes.Equal
  exact beq_iff_eq

example : attributes.Attributes.Equal 0x27 0x67 = true ∧ attributes.Attributes.Equal 0x67 0x27 = false := by
  decide +kernel

end GoUefi.C11

#print axioms GoUefi.C11.C11g_equal
#print axioms GoUefi.C11.C11g_equal_iff

/-! ## the read path: `ParseEfivars` (both copies) as the source has it now

`ParseEfivars(f, size)` is what `ReadEfivarsFile` hands the opened file and its `Stat` size to.  The
Go code allocates `size - 4` bytes: for `size < 4` that used to be `make` with a negative length, a
run-time panic (F33) which a translation to lists and `Int.toNat` cannot show; the source now rejects
such a size first (`C11g_parse_small`), so `4 ≤ size` holds where the allocation is reached and the
three theorems together cover every reader content and every size. -/
namespace GoUefi.C11
open GoUefi GoUefi.Gen GoUefi.GenCodec

/-- `ParseEfivars` past its size check, from the outcomes of its two reads: 4 bytes, then `size - 4` -/
theorem parseEfivars_of_le {f : List UInt8} {size : Int} (hs : 4 ≤ size) {a r b r' : List UInt8}
    {e e' : GoErr} (h1 : readBytes 4 f = (a, r, e)) (h2 : readBytes (size - 4).toNat r = (b, r', e')) :
    attributes.ParseEfivars f size =
      if e.isSome then (r, 0, [], goWrap e) else if e'.isSome then (r', 0, [], e')
      else (r', decLE32 a, b, none) := by
  have hd : decide (size < attributes.SizeofAttributes) = false := decide_eq_false (Int.not_lt.2 hs)
  unfold attributes.ParseEfivars
  rw [hd]
  simp only [Bool.false_eq_true, if_false, attributes.SizeofAttributes, List.length_replicate, h1, h2]
  cases e <;> cases e' <;> rfl

theorem four_le_toNat {size : Int} (hs : 4 ≤ size) : 4 ≤ size.toNat :=
  (Int.le_toNat (Int.le_trans (by decide) hs)).mpr hs

/-- A file that holds at least `size ≥ 4` bytes: the attribute word is the little-endian reading of
    the first four bytes, the value is exactly the next `size - 4` bytes (not fewer, not the whole
    rest), and the reader is left behind them. -/
theorem C11g_parse_ok (f : List UInt8) (size : Int) (hs : 4 ≤ size) (hf : size.toNat ≤ f.length) :
    attributes.ParseEfivars f size =
      (f.drop size.toNat, decLE32 (f.take 4), (f.drop 4).take (size.toNat - 4), none) := by
  -- the two steps about `Int`; the rest is arithmetic in `Nat`
  have e1 : (size - 4).toNat = size.toNat - 4 := Int.toNat_sub' size 4
  have h4 := four_le_toNat hs
  rw [parseEfivars_of_le hs (readBytes_of_le (Nat.le_trans h4 hf))
      (readBytes_of_le (by rw [e1, List.length_drop]; exact Nat.sub_le_sub_right hf 4)),
    List.drop_drop, e1, Nat.add_sub_cancel' h4]
  rfl

/-- A file shorter than `size`: an error, attributes 0 and no value — never a short value. -/
theorem C11g_parse_short (f : List UInt8) (size : Int) (hs : 4 ≤ size) (hf : f.length < size.toNat) :
    ∃ e, attributes.ParseEfivars f size = ([], 0, [], some e) := by
  by_cases h4 : f.length < 4
  · obtain ⟨s, hr⟩ := readBytes_short (n := 4) h4
    exact ⟨_, parseEfivars_of_le hs hr rfl⟩
  · obtain ⟨s, hr⟩ := readBytes_short (n := (size - 4).toNat) (f := f.drop 4)
      (by rw [List.length_drop]
          exact Nat.lt_of_lt_of_eq (Nat.sub_lt_sub_right (Nat.not_lt.mp h4) hf) (Int.toNat_sub' size 4).symm)
    exact ⟨s, parseEfivars_of_le hs (readBytes_of_le (Nat.not_lt.mp h4)) hr⟩

/-- A declared size below the four attribute bytes: an error, and nothing is read (F33: this used to
    be a negative-length allocation). -/
theorem C11g_parse_small (f : List UInt8) (size : Int) (hs : size < 4) :
    ∃ e, attributes.ParseEfivars f size = (f, 0, [], some e) := by
  have hd : decide (size < attributes.SizeofAttributes) = true := decide_eq_true hs
  unfold attributes.ParseEfivars
  rw [hd]
  exact ⟨_, rfl⟩

/-- the attribute word as the model reads it (`rd32` of the first four bytes) -/
theorem C11g_parse_attrs (f : List UInt8) (size : Int) (hs : 4 ≤ size) (hf : size.toNat ≤ f.length) :
    (attributes.ParseEfivars f size).2.1.toNat = rd32 (f.take 4) := by
  rw [C11g_parse_ok f size hs hf]
  exact decLE32_toNat _ (List.length_take_of_le (Nat.le_trans (four_le_toNat hs) hf))

/-- the value has exactly `size - 4` bytes -/
theorem C11g_parse_value_length (f : List UInt8) (size : Int) (hs : 4 ≤ size) (hf : size.toNat ≤ f.length) :
    (attributes.ParseEfivars f size).2.2.1.length = size.toNat - 4 := by
  rw [C11g_parse_ok f size hs hf, List.length_take, List.length_drop]
  exact Nat.min_eq_left (Nat.sub_le_sub_right hf 4)

/-- the wrapper's copy is the same function -/
theorem C11g_parse_twins (t : fswrapper.FSWrapper) (f : List UInt8) (size : Int) :
    fswrapper.FSWrapper.ParseEfivars t f size = attributes.ParseEfivars f size := rfl

example : attributes.ParseEfivars [7, 0, 0, 0, 1, 2, 3, 9] 7 = ([9], 7, [1, 2, 3], none) := by decide +kernel
example : (attributes.ParseEfivars [7, 0, 0, 0, 1, 2] 7).2.2.2.isSome = true := by decide +kernel
example : (attributes.ParseEfivars [7, 0, 0, 0, 1, 2] 3).2.2.2.isSome = true := by decide +kernel

end GoUefi.C11

#print axioms GoUefi.C11.C11g_parse_ok
#print axioms GoUefi.C11.C11g_parse_short
#print axioms GoUefi.C11.C11g_parse_small
#print axioms GoUefi.C11.C11g_parse_attrs
#print axioms GoUefi.C11.C11g_parse_value_length
#print axioms GoUefi.C11.C11g_parse_twins

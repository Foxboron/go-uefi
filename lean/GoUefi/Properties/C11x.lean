import GoUefi.Fmt
import GoUefi.Facts
/-! C11 — regenerated tie: file-name format strings, open flags and attribute constants of the
    current source (facts re-extracted on every run; an absent fact makes its obligation vacuous
    and the differential run then carries that tie alone) -/
namespace GoUefi.C11
open GoUefi

/-- every Sprintf format used to build a variable's file name (both writers and the reader) is
    `<name>-<guid>` = "%s-%s", which is what `Impl.varPath` models -/
theorem C11_extracted_path_format :
    ∀ s ∈ Fmt.formatsOf "efivarfs/fswrapper" "FSWrapper.WriteEfivarsWithGuid" ++
          Fmt.formatsOf "efivarfs/fswrapper" "FSWrapper.ReadEfivarsWithGuid" ++
          Fmt.formatsOf "efi/attributes" "WriteEfivarsWithGuid",
      Fmt.PathFmtOk (Fmt.parse s.toList) = true := by
  decide +kernel

/-- the `os.O_*` identifiers that occur in the flag expressions of the write functions are a
    sub-list of O_WRONLY, O_CREATE, O_APPEND containing the first two (no O_RDWR, O_TRUNC, O_EXCL,
    O_SYNC, …); EFI_VARIABLE_APPEND_WRITE is 0x40 and the attribute prefix is 4 bytes, as
    `Impl.writeFlags` / `Impl.writeVar` assume -/
theorem C11_extracted_flags :
    (∀ x ∈ Extracted.writeFlags,
      (x.2.isSublist ["os.O_WRONLY", "os.O_CREATE", "os.O_APPEND"] &&
       x.2.contains "os.O_WRONLY" && x.2.contains "os.O_CREATE") = true) ∧
    Facts.constIs "efi/attributes.EFI_VARIABLE_APPEND_WRITE" 64 = true ∧
    Facts.constIs "efi/attributes.SizeofAttributes" 4 = true := by
  decide +kernel

/-! ### non-vacuity: the facts are present in this extraction, and the check does discriminate -/
example : (Fmt.formatsOf "efivarfs/fswrapper" "FSWrapper.WriteEfivarsWithGuid" ++
           Fmt.formatsOf "efivarfs/fswrapper" "FSWrapper.ReadEfivarsWithGuid" ++
           Fmt.formatsOf "efi/attributes" "WriteEfivarsWithGuid").length = 3 := by decide +kernel
example : Extracted.writeFlags.length = 2 := by decide +kernel
example : Facts.constOf "efi/attributes.EFI_VARIABLE_APPEND_WRITE" = some 64 ∧
    Facts.constOf "efi/attributes.SizeofAttributes" = some 4 := by decide +kernel
example : ∀ ids ∈ [["os.O_WRONLY", "os.O_CREATE"], ["os.O_WRONLY", "os.O_CREATE", "os.O_APPEND"]],
    (ids.isSublist ["os.O_WRONLY", "os.O_CREATE", "os.O_APPEND"] &&
     ids.contains "os.O_WRONLY" && ids.contains "os.O_CREATE") = true := by decide +kernel
example : ∀ ids ∈ [["os.O_RDWR", "os.O_CREATE", "os.O_APPEND"], ["os.O_WRONLY", "os.O_CREATE", "os.O_TRUNC"],
      ["os.O_WRONLY", "os.O_APPEND"]],
    (ids.isSublist ["os.O_WRONLY", "os.O_CREATE", "os.O_APPEND"] &&
     ids.contains "os.O_WRONLY" && ids.contains "os.O_CREATE") = false := by decide +kernel

end GoUefi.C11

#print axioms GoUefi.C11.C11_extracted_path_format
#print axioms GoUefi.C11.C11_extracted_flags

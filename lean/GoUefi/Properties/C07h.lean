import GoUefi.Properties.C08g
import GoUefi.Properties.C09h
/-!
# C07 (generated tie, second part) — the encoding is a homomorphism of the list sequence

For the encoder as translated from the source (`SignatureDatabase.Bytes` / `SignatureList.Bytes`,
`efi/signature`), and the translated `AppendList` / `AppendDatabase` / `RemoveList`: the encoding of a
database is the concatenation of the encodings of its lists, in order — so joining two databases
joins their encodings, handing over a list appends its encoding, and removing a list cuts exactly
its bytes out of the stream and moves nothing else.  This holds of every database value
(`bytes_flatten`, `bytes_append`, `bytes_singleton`: no invariant, no size hypothesis); the statements
named for the property also carry `DbOK` / `ListOK` (eight `Data4` bytes, what a Go `[8]uint8` always
has), which nothing here uses.
-/
set_option linter.unusedVariables false
namespace GoUefi.C07
open GoUefi GoUefi.Gen GoUefi.C09 GoUefi.C08

theorem bytes_flatten (sd : signature.SignatureDatabase) : sd.Bytes = (sd.map fun l => l.Bytes).flatten := by
  simp [signature.SignatureDatabase.Bytes_eq, signature.SignatureList.Bytes_eq, Impl.encDb, absDb,
    Function.comp_def]

theorem bytes_append (a b : signature.SignatureDatabase) : (a ++ b).Bytes = a.Bytes ++ b.Bytes := by
  simp [bytes_flatten]

theorem bytes_singleton (l : signature.SignatureList) : signature.SignatureDatabase.Bytes [l] = l.Bytes := by
  rw [bytes_flatten, List.map_singleton, List.flatten_singleton]

theorem C07h_empty_bytes : signature.SignatureDatabase.Bytes [] = [] :=
  bytes_flatten []

/-- the encoding of a database is the concatenation of its lists' encodings, in order -/
theorem C07h_bytes_flatten (sd : signature.SignatureDatabase) (h : DbOK sd) :
    sd.Bytes = (sd.map fun l => l.Bytes).flatten :=
  bytes_flatten sd

/-- `AppendDatabase` joins the encodings -/
theorem C07h_appendDatabase_bytes (sd s : signature.SignatureDatabase) (h1 : DbOK sd) (h2 : DbOK s) :
    (sd.AppendDatabase s).Bytes = sd.Bytes ++ s.Bytes := by
  rw [C09h_appendDatabase, bytes_append]

/-- `AppendList` appends the list's encoding and leaves the bytes in front as they were -/
theorem C07h_appendList_bytes (sd : signature.SignatureDatabase) (l : signature.SignatureList)
    (h1 : DbOK sd) (hl : ListOK l) :
    (sd.AppendList l).Bytes = sd.Bytes ++ l.Bytes := by
  rw [signature.SignatureDatabase.AppendList, bytes_append, bytes_singleton]

/-- `RemoveList` cuts exactly the removed list's bytes out of the stream: what stood in front and
    what stood behind keep their bytes and their order -/
theorem C07h_removeList_bytes (sd : signature.SignatureDatabase) (sl : signature.SignatureList)
    (h : DbOK sd) (hm : sl ∈ sd) :
    ∃ pre rest : signature.SignatureDatabase, sd = pre ++ sl :: rest ∧
      sd.Bytes = pre.Bytes ++ sl.Bytes ++ rest.Bytes ∧
      (sd.RemoveList sl).1.Bytes = pre.Bytes ++ rest.Bytes := by
  obtain ⟨pre, rest, hsd, _, hr⟩ := C09h_removeList_split sd sl hm
  refine ⟨pre, rest, hsd, ?_, by rw [hr, bytes_append]⟩
  rw [hsd, List.append_cons, bytes_append, bytes_append, bytes_singleton]

/-- so the length of the stream drops by exactly the length of the removed list's encoding -/
theorem C07h_removeList_length (sd : signature.SignatureDatabase) (sl : signature.SignatureList)
    (h : DbOK sd) (hm : sl ∈ sd) :
    (sd.RemoveList sl).1.Bytes.length + sl.Bytes.length = sd.Bytes.length := by
  obtain ⟨pre, rest, _, h1, h2⟩ := C07h_removeList_bytes sd sl h hm
  simp only [h1, h2, List.length_append]
  omega

end GoUefi.C07

#print axioms GoUefi.C07.C07h_empty_bytes
#print axioms GoUefi.C07.C07h_bytes_flatten
#print axioms GoUefi.C07.C07h_appendDatabase_bytes
#print axioms GoUefi.C07.C07h_appendList_bytes
#print axioms GoUefi.C07.C07h_removeList_bytes
#print axioms GoUefi.C07.C07h_removeList_length

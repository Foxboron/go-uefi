import GoUefi.Lemmas.Pe
/-!
# C01 — the Authenticode digest covers exactly the bytes the specification says

The property theorems and examples that meet their hypotheses.
Spec: `GoUefi/Spec/Pe.lean` (Microsoft "Windows Authenticode Portable Executable Signature Format",
steps 3–14).  Model of authenticode/checksum.go and multireader.go: `GoUefi/Model/Pe.lean`.
Helper lemmas and the example images (`PeExample`): `GoUefi/Lemmas/Pe.lean`.
-/
namespace GoUefi.C01
open GoUefi GoUefi.Spec.PE GoUefi.Impl

/-- The executable well-formedness check that the test harness runs is exactly the proposition
    `WF` (its cheap preliminary header test is implied by the `tab_soh` and `soh_n` clauses). -/
theorem C01_wfCheck_iff (b : Bytes) : wfCheck b = true ↔ WF b :=
  wfCheck_iff b

/-- On a well-formed image, given what `debug/pe` reports for it (`factsOf`), `Parse` succeeds, every
    header-declared range is regular, every range handed to the multi-reader delivers all its bytes,
    and the byte stream the implementation digests IS the specification's hash input of the image
    zero-padded to a multiple of 8. -/
theorem C01_impl_eq_spec (b : Bytes) (h : WF b) :
    ∃ p, Impl.parse b (Impl.factsOf b) = .ok p ∧ p.regular = true ∧
      (∀ q ∈ p.parts, q.full = true) ∧ Impl.hashStream p = authInputPadded b :=
  ⟨wfParsed b, parse_of_wf h, rfl, wfParsed_full h, hashStream_wfParsed h⟩

set_option linter.unusedVariables false in
/-- The positional reader over the parts returns exactly the requested window of their
    concatenation, with no error.  (The hypothesis `hne` is not used: the reader skips empty parts
    (F17), so the statement holds for every list of parts.) -/
theorem C01_multi_readAt (ps : List Bytes) (hne : ∀ p ∈ ps, p ≠ []) (off len : Nat)
    (h : off + len ≤ ps.flatten.length) :
    Impl.multiReadAt ps off len = ((ps.flatten.drop off).take len, false) :=
  Impl.multiReadAt_eq ps off len h

/-- Sequential copying in chunks of ANY positive size, with more fuel than there are bytes,
    reproduces the concatenation of the parts. -/
theorem C01_copyAll_fuel (ps : List Bytes) (chunk : Nat) (hc : 0 < chunk) (fuel : Nat)
    (hf : ps.flatten.length + 1 ≤ fuel) : Impl.copyAll ps chunk fuel 0 = ps.flatten := by
  rw [Impl.copyAll_eq ps chunk hc _ _ (by omega), List.drop_zero]

set_option linter.unusedVariables false in
/-- With one more unit of fuel than there are bytes (what `Hash` passes, `hashInputE`): what is
    digested does not depend on io.Copy's buffer size.  (`hne` is not used, as in `C01_multi_readAt`.) -/
theorem C01_copyAll (ps : List Bytes) (hne : ∀ p ∈ ps, p ≠ []) (chunk : Nat) (hc : 0 < chunk) :
    Impl.copyAll ps chunk (ps.flatten.length + 1) 0 = ps.flatten :=
  C01_copyAll_fuel ps chunk hc _ (Nat.le_refl _)

/-- Equal hash inputs of two equally long well-formed images
    force the same layout, the same certificate-table size and agreement on every covered byte. -/
theorem C01_covered_agree (a b : Bytes) (wa : WF a) (wb : WF b) (hn : a.length = b.length)
    (h : authInputPadded a = authInputPadded b) :
    layout a = layout b ∧ certSize a = certSize b ∧ ∀ p, Covered a p → a[p]? = b[p]? := by
  rw [wa.authInputPadded_eq, wb.authInputPadded_eq, hn] at h
  exact authInput_inj a b wa wb hn (List.append_cancel_right h)

/-- `C01_covered_agree` in negative form: changing any covered byte of a well-formed image —
    including bytes of the header fields that determine the layout, as long as the result is still
    well-formed and equally long — changes the hash input. -/
theorem C01_covered_matters (a b : Bytes) (wa : WF a) (wb : WF b) (hn : a.length = b.length)
    (p : Nat) (hp : Covered a p) (hd : a[p]? ≠ b[p]?) : authInputPadded a ≠ authInputPadded b :=
  fun h => hd ((C01_covered_agree a b wa wb hn h).2.2 p hp)

/-- Two well-formed, equally long images that differ only in the CheckSum field and inside the
    certificate table have the same hash input.  (`hdir` also follows from `h`, because the directory
    entry lies outside both regions.) -/
theorem C01_excluded_irrelevant (a b : Bytes) (wa : WF a) (wb : WF b) (hn : a.length = b.length)
    (h : ∀ p, a[p]? ≠ b[p]? → ((layout a).ck ≤ p ∧ p < (layout a).ck + 4) ∨
      (a.length - certSize a ≤ p ∧ p < a.length))
    (hdir : certSize a = certSize b) : authInputPadded a = authInputPadded b := by
  have hcov : ∀ p, Covered a p → a[p]? = b[p]? := fun p hc =>
    Classical.byContradiction fun e =>
      wa.covered_not_excluded hc ((h p e).elim Or.inl fun t => Or.inr (Or.inr t))
  rw [wa.authInputPadded_eq, wb.authInputPadded_eq, ← hn, authInput_congr wa (by rw [hn, hdir]) hcov]

/-- Every position of a well-formed image is classified by the executable classifier the harness
    uses exactly as the propositions say; a `gap` position is neither covered nor excluded. -/
theorem C01_every_byte_classified (b : Bytes) (h : WF b) (p : Nat) (hp : p < b.length) :
    (classify b p = .covered ↔ Covered b p) ∧ (classify b p = .excluded ↔ Excluded b p) ∧
    (classify b p = .gap → ¬ Covered b p ∧ ¬ Excluded b p) := by
  rcases classify_cases b p hp with ⟨he, hc⟩ | ⟨hne, hcov, hc⟩ | ⟨hne, hncov, hc⟩ <;> rw [hc]
  · exact ⟨⟨nofun, fun hcov => absurd he (h.covered_not_excluded hcov)⟩, ⟨fun _ => he, fun _ => rfl⟩, nofun⟩
  · exact ⟨⟨fun _ => hcov, fun _ => rfl⟩, ⟨nofun, fun he => absurd he hne⟩, nofun⟩
  · exact ⟨⟨nofun, fun hc => absurd hc hncov⟩, ⟨nofun, fun he => absurd he hne⟩, fun _ => ⟨hncov, hne⟩⟩

/-- Covered and excluded positions of a well-formed image are disjoint. -/
theorem C01_covered_excluded_disjoint {b : Bytes} {p : Nat} (h : WF b) :
    Covered b p → ¬ Excluded b p :=
  h.covered_not_excluded

/-- Every covered position lies inside the image, before the certificate table. -/
theorem C01_covered_in_image {b : Bytes} {p : Nat} (h : WF b) (hc : Covered b p) :
    p < b.length - certSize b :=
  h.covered_lt hc

/-- For any digest function `H`: equal specification hash inputs give equal digests of the streams
    the implementation reads. -/
theorem C01_digest_upto_collision (H : Bytes → Bytes) (a b : Bytes) (wa : WF a) (wb : WF b)
    (pa pb : Impl.Parsed) (hpa : Impl.parse a (Impl.factsOf a) = .ok pa)
    (hpb : Impl.parse b (Impl.factsOf b) = .ok pb)
    (h : authInputPadded a = authInputPadded b) :
    H (authInputPadded a) = H (authInputPadded b) ∧
    H (Impl.hashStream pa) = H (Impl.hashStream pb) := by
  rw [Impl.hashStream_of_parse wa hpa, Impl.hashStream_of_parse wb hpb, h]
  exact ⟨rfl, rfl⟩

/-- For any digest function `H`: well-formed, equally long images that differ only in CheckSum and
    inside the certificate table get the same digest from the implementation. -/
theorem C01_digest_ignores_excluded (H : Bytes → Bytes) (a b : Bytes) (wa : WF a) (wb : WF b)
    (hn : a.length = b.length)
    (h : ∀ p, a[p]? ≠ b[p]? → ((layout a).ck ≤ p ∧ p < (layout a).ck + 4) ∨
      (a.length - certSize a ≤ p ∧ p < a.length))
    (hdir : certSize a = certSize b)
    (pa pb : Impl.Parsed) (hpa : Impl.parse a (Impl.factsOf a) = .ok pa)
    (hpb : Impl.parse b (Impl.factsOf b) = .ok pb) :
    H (Impl.hashStream pa) = H (Impl.hashStream pb) :=
  (C01_digest_upto_collision H a b wa wb pa pb hpa hpb
    (C01_excluded_irrelevant a b wa wb hn h hdir)).2

/-- For any digest function `H` that does not collide on these two hash inputs: changing a covered
    byte of a well-formed image (the result well-formed and equally long) changes the digest the
    implementation computes. -/
theorem C01_digest_changes_upto_collision (H : Bytes → Bytes) (a b : Bytes) (wa : WF a) (wb : WF b)
    (hn : a.length = b.length) (p : Nat) (hp : Covered a p) (hd : a[p]? ≠ b[p]?)
    (pa pb : Impl.Parsed) (hpa : Impl.parse a (Impl.factsOf a) = .ok pa)
    (hpb : Impl.parse b (Impl.factsOf b) = .ok pb)
    (hnc : H (authInputPadded a) = H (authInputPadded b) → authInputPadded a = authInputPadded b) :
    H (Impl.hashStream pa) ≠ H (Impl.hashStream pb) := by
  rw [Impl.hashStream_of_parse wa hpa, Impl.hashStream_of_parse wb hpb]
  exact fun e => C01_covered_matters a b wa wb hn p hp hd (hnc e)

section NonVacuity
open GoUefi.PeExample

example : wfCheck img64 = true := img64_facts.1
/-- the section headers stand in the opposite order to the file order -/
example : img64.length = 349 ∧ (layout img64).secs = [(336, 8), (320, 16)] ∧
    (layout img64).hashed = [(320, 16), (336, 8)] ∧ (layout img64).ndirs = 5 := by decide +kernel
example : WF img64 := wf_img64
example : WF img32 := wf_img32
example : img32.length = 333 ∧ (layout img32).plus = false := img32_facts.2
example : WF img64s := wf_img64s
example : certAddr img64s = 352 ∧ certSize img64s = 16 := by
  obtain ⟨_, _, _, _, _, _, _, va, sz, _⟩ := img64s_facts
  exact ⟨va, sz⟩

example : ∃ p, Impl.parse img64 (Impl.factsOf img64) = .ok p ∧ p.regular = true ∧
    (∀ q ∈ p.parts, q.full = true) ∧ Impl.hashStream p = authInputPadded img64 :=
  C01_impl_eq_spec img64 wf_img64
example : ∃ p, Impl.parse img32 (Impl.factsOf img32) = .ok p ∧ p.regular = true ∧
    (∀ q ∈ p.parts, q.full = true) ∧ Impl.hashStream p = authInputPadded img32 :=
  C01_impl_eq_spec img32 wf_img32
/-- 349 bytes + 3 of padding − 4 (CheckSum) − 8 (directory entry) = 340 -/
example : (match Impl.parse img64 (Impl.factsOf img64) with
    | .ok p => p.regular && p.parts.all (·.full) && Impl.hashStream p == authInputPadded img64 &&
               (Impl.hashStream p).length == 340 && p.padding == 3
    | _ => false) = true := by decide +kernel
/-- the signed image: 368 − 4 − 8 − 16 (certificate table) = 340, no padding -/
example : (match Impl.parse img64s (Impl.factsOf img64s) with
    | .ok p => p.regular && p.parts.all (·.full) && Impl.hashStream p == authInputPadded img64s &&
               (Impl.hashStream p).length == 340 && p.padding == 0
    | _ => false) = true := by decide +kernel

/-- the reader crosses part boundaries and skips the empty part -/
example : Impl.multiReadAt [[1, 2], [], [3], [4, 5, 6]] 1 4 = ([2, 3, 4, 5], false) := by decide
/-- asking for more than there is reports the error -/
example : (Impl.multiReadAt [[1, 2], [3]] 1 4).2 = true := by decide
example : Impl.copyAll [[1, 2], [3], [4, 5, 6]] 4 7 0 = [1, 2, 3, 4, 5, 6] := by decide
example : Impl.copyAll [[1, 2], [3], [4, 5, 6]] 1 7 0 = [1, 2, 3, 4, 5, 6] := by decide

example : authInputPadded img64 ≠ authInputPadded img64' :=
  C01_covered_matters img64 img64' wf_img64 wf_img64' (length_img64.trans length_img64'.symm) 348
    covered_img64 img64_differ

example : img64s ≠ img64s' ∧ authInputPadded img64s = authInputPadded img64s' := by
  obtain ⟨_, _, _, _, _, len, len', _, sz, sz', diff⟩ := img64s_facts
  exact ⟨fun e => diff (e ▸ rfl),
    C01_excluded_irrelevant img64s img64s' wf_img64s wf_img64s' (len.trans len'.symm) img64s_diff
      (sz.trans sz'.symm)⟩

/-- the classifier on the signed image: CheckSum, directory entry, certificate table excluded -/
example : classify img64s 151 = .covered ∧ classify img64s 152 = .excluded ∧
    classify img64s 155 = .excluded ∧ classify img64s 156 = .covered ∧
    classify img64s 232 = .excluded ∧ classify img64s 239 = .excluded ∧
    classify img64s 351 = .covered ∧ classify img64s 352 = .excluded ∧
    classify img64s 368 = .outside := by decide +kernel

end NonVacuity

#print axioms C01_wfCheck_iff
#print axioms C01_impl_eq_spec
#print axioms C01_multi_readAt
#print axioms C01_copyAll
#print axioms C01_copyAll_fuel
#print axioms C01_covered_matters
#print axioms C01_covered_agree
#print axioms C01_excluded_irrelevant
#print axioms C01_every_byte_classified
#print axioms C01_covered_excluded_disjoint
#print axioms C01_covered_in_image
#print axioms C01_digest_upto_collision
#print axioms C01_digest_ignores_excluded
#print axioms C01_digest_changes_upto_collision

end GoUefi.C01

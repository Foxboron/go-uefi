import GoUefi.Lemmas.MultiFault
/-!
# C15 (reader part) — a failing or short read never yields a digest of something else

`PECOFFBinary.Hash` streams the parts through `io.Copy(h, io.NewSectionReader(multi, 0, size))`
and returns nil when `io.Copy` fails.  The caller's `io.ReaderAt` is the dependency; the
environment `env : Impl.RdEnv` answers the k-th `ReadAt` issued on it (how many of the requested
bytes it delivers, and which error it reports), and the theorems quantify over EVERY environment,
i.e. over every pattern of errors, short counts (with an error, with `io.EOF`, or — breaking the
`io.ReaderAt` contract — with a nil error) and early `io.EOF`s.

Model: `GoUefi/Model/MultiFault.lean` (`multiReadAtE`, `copyAllE`, `hashInputE`; the code before
the F21 repair as `multiReadAtOld`, `copyAllOld`).  Helper lemmas: `GoUefi/Lemmas/MultiFault.lean`.

No statement assumes `Impl.RdEnv.Contract` (fewer bytes than requested only together with an error).
Before the F25 repair `multi.ReadAt` restarted a part at offset 0 after a short count with a nil
error (a wrong digest, reproduced by the C15 check); the repaired code reports an error there, and
so does the model.  The class of that error differs: `Impl.multiReadAtE` answers `.other` where the
Go code returns `io.ErrUnexpectedEOF`; the theorems below only distinguish "no error" from "an error".
-/
namespace GoUefi.C15
open GoUefi GoUefi.Impl

/-- Whatever the caller's reader does (errors, short counts with any error or with none, early
    `io.EOF`, at any read), if `Hash` returns a digest at all it is the digest of the complete,
    unaltered stream. -/
theorem C15_hash_no_wrong_digest (env : Impl.RdEnv) (parts : List Bytes)
    (chunk : Nat) (hpos : 0 < chunk) (out : Bytes)
    (h : Impl.hashInputE env parts chunk = some out) : out = (Impl.multiParts parts).flatten := by
  rw [Impl.hashInputE_eq] at h
  split at h
  · rename_i he
    rw [Impl.copyAllE_exact env (Impl.multiParts parts) chunk hpos _ 0 0 (by omega) (.inl he),
      List.drop_zero] at h
    exact (Option.some.inj h).symm
  · cases h

/-- One positional read: if `multi.ReadAt` reports no error, it delivered exactly the requested
    window of the concatenation. -/
theorem C15_readAt_ok_is_exact (env : Impl.RdEnv) (ps : List Bytes)
    (off len k : Nat) (h : off + len ≤ ps.flatten.length)
    (he : (Impl.multiReadAtE env ps off len k).2.1 = .none) :
    (Impl.multiReadAtE env ps off len k).1 = (ps.flatten.drop off).take len := by
  obtain ⟨k', hk'⟩ := Impl.multiReadAtE_exact env ps off len k h (.inl he)
  rw [hk']

/-- `io.Copy` from any offset, any amount of fuel that suffices: nil means that everything from
    `off` on was written, unaltered. -/
theorem C15_copy_ok_is_complete (env : Impl.RdEnv) (ps : List Bytes)
    (chunk : Nat) (hpos : 0 < chunk) (fuel off k : Nat) (hf : ps.flatten.length - off + 1 ≤ fuel)
    (he : (Impl.copyAllE env ps chunk fuel off k).2 = .none) :
    (Impl.copyAllE env ps chunk fuel off k).1 = ps.flatten.drop off := by
  rw [Impl.copyAllE_exact env ps chunk hpos fuel off k hf (.inl he)]

/-- A first read that comes back short — whatever it was asked for, whatever error (or none) it
    reports, whatever the reader does afterwards — makes `Hash` return nothing. -/
theorem C15_first_read_short (env : Impl.RdEnv) (parts : List Bytes) (chunk : Nat)
    (hpos : 0 < chunk) (hne : Impl.multiParts parts ≠ [])
    (h0 : ∀ want, 0 < want → (env 0 want).n < want) : Impl.hashInputE env parts chunk = none := by
  obtain ⟨p, rest, hps⟩ := List.exists_cons_of_ne_nil hne
  have hp : p ≠ [] := Impl.mem_multiParts_ne_nil parts p (by rw [hps]; exact List.mem_cons_self ..)
  rw [Impl.hashInputE_eq, hps]
  exact if_neg (Impl.copyAllE_first_short env p rest hp chunk hpos _ 0 h0)

/-- A short read makes `Hash` return nothing: the very first read fails in one of the six ways
    (`kind` 0: error without data; 1: one byte short with `io.ErrUnexpectedEOF`; 2: one byte short
    with `io.EOF`; 3: nothing with `io.EOF`; 4: one byte short with a nil error; ≥ 5: nothing with a
    nil error), the reader is healthy otherwise. -/
theorem C15_short_read_is_failure (kind : Nat) (parts : List Bytes) (chunk : Nat)
    (hpos : 0 < chunk) (hne : Impl.multiParts parts ≠ []) :
    Impl.hashInputE (Impl.envFault 0 kind) parts chunk = none :=
  C15_first_read_short _ parts chunk hpos hne (Impl.envFault_short 0 kind)

/-- The fault-injecting readers of kinds 0–3 are inside the `io.ReaderAt` contract (4 and 5 are
    deliberately outside). -/
theorem C15_envFault_contract (j kind : Nat) (hk : kind ≤ 3) : (Impl.envFault j kind).Contract := by
  intro k want
  unfold envFault
  by_cases h : k ≠ j
  · rw [if_pos h]; intro _; exact Nat.le_refl _
  · rw [if_neg h]
    match kind, hk with
    | 0, _ => intro he; cases he
    | 1, _ => by_cases hw : want ≤ 1 <;> simp [hw]
    | 2, _ => by_cases hw : want ≤ 1 <;> simp [hw]
    | 3, _ => intro he; cases he

/-- The fault at ANY read: `Hash` fails, or the result is the complete stream (the examples show
    both: a faulty read that is issued, and one that never is).  Never a digest of anything else. -/
theorem C15_fault_any_position (parts : List Bytes) (chunk : Nat) (hpos : 0 < chunk) :
    ∀ j kind, Impl.hashInputE (Impl.envFault j kind) parts chunk = none ∨
      Impl.hashInputE (Impl.envFault j kind) parts chunk = some (Impl.multiParts parts).flatten := by
  intro j kind
  cases h : Impl.hashInputE (Impl.envFault j kind) parts chunk with
  | none => exact .inl rfl
  | some out => rw [C15_hash_no_wrong_digest _ parts chunk hpos out h]; exact .inr rfl

/-! ### non-vacuity: concrete readers and streams -/

/-- the healthy reader is inside the contract, and `Hash` returns a digest (hypothesis of
    `C15_hash_no_wrong_digest`) -/
example : Impl.envOk.Contract := Impl.envOk_delivers.contract
example : Impl.hashInputE Impl.envOk [[1, 2, 3, 4, 5], [], [6]] 3 = some [1, 2, 3, 4, 5, 6] := by
  decide +kernel
/-- hypotheses of `C15_short_read_is_failure` met -/
example : Impl.multiParts [[1, 2, 3, 4, 5], [], [6]] ≠ [] := by decide +kernel
example : (List.range 7).all (fun kind =>
    Impl.hashInputE (Impl.envFault 0 kind) [[1, 2, 3, 4, 5], [], [6]] 3 == none) = true := by
  decide +kernel
/-- a reader whose every read is one byte short and reports nothing at all is OUTSIDE the contract,
    and still covered by `C15_first_read_short` -/
example : Impl.hashInputE (fun _ want => ⟨want - 1, .none⟩) [[1, 2, 3, 4, 5], [], [6]] 3 = none :=
  C15_first_read_short _ _ 3 (by decide) (by decide +kernel) (fun want h => by
    show want - 1 < want
    omega)

/-- Repaired code: one byte short with `io.EOF` at read 1 (the second read, which asks for the
    rest `[4, 5]` of the first part and gets `[4]`): `io.ErrUnexpectedEOF`, no digest. -/
example : Impl.copyAllE (Impl.envFault 1 2) [[1, 2, 3, 4, 5], [6]] 3 7 0 0 =
    ([1, 2, 3, 4], .unexpected) := by decide +kernel
example : Impl.hashInputE (Impl.envFault 1 2) [[1, 2, 3, 4, 5], [6]] 3 = none := by decide +kernel
/-- every kind of fault at every read that is issued (0 … 2): no digest; at a read that is never
    issued (3 …): the complete stream — both alternatives of `C15_fault_any_position` occur -/
example : (List.range 7).all (fun kind => (List.range 3).all fun j =>
    Impl.hashInputE (Impl.envFault j kind) [[1, 2, 3, 4, 5], [6]] 3 == none) = true := by
  decide +kernel
example : (List.range 7).all (fun kind => (List.range 3).all fun j =>
    Impl.hashInputE (Impl.envFault (3 + j) kind) [[1, 2, 3, 4, 5], [6]] 3 ==
      some [1, 2, 3, 4, 5, 6]) = true := by decide +kernel

/-! ### regression: defect F21 (kernel-checked) -/

/-- Before the F21 repair the same reader — one byte short with `io.EOF` at read 1 — makes
    `multi.ReadAt` return `io.EOF` without the bytes of that read; `io.Copy` takes it for the end
    of the stream and returns nil: the digest of the proper prefix `[1, 2, 3]` was returned. -/
example : Impl.copyAllOld (Impl.envFault 1 2) [[1, 2, 3, 4, 5], [6]] 3 7 0 0 = ([1, 2, 3], .none) ∧
    [1, 2, 3] ++ [4, 5, 6] = [[1, 2, 3, 4, 5], [6]].flatten ∧
    [1, 2, 3] ≠ [[1, 2, 3, 4, 5], [6]].flatten := by decide +kernel
/-- … and likewise for "nothing with `io.EOF`" (kind 3) at any read but the first: a non-empty
    proper prefix, no error -/
example : (List.range 2).all (fun j =>
    let r := Impl.copyAllOld (Impl.envFault (1 + j) 3) [[1, 2, 3, 4, 5], [6]] 3 7 0 0
    r.2 == .none && 0 < r.1.length && r.1.length < 6 &&
      r.1 == [1, 2, 3, 4, 5, 6].take r.1.length) = true := by decide +kernel

#print axioms C15_hash_no_wrong_digest
#print axioms C15_readAt_ok_is_exact
#print axioms C15_copy_ok_is_complete
#print axioms C15_first_read_short
#print axioms C15_short_read_is_failure
#print axioms C15_envFault_contract
#print axioms C15_fault_any_position

end GoUefi.C15

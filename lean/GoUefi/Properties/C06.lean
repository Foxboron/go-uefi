import GoUefi.Lemmas.VarSign
import GoUefi.Properties.C10
/-!
# C06 — a signed variable update has the exact AUTHENTICATION_2 layout and binding

Models: `GoUefi/Model/VarSign.lean` (`signature.SignEFIVariable` followed by the payload),
`GoUefi/Model/Pkcs7.lean` (`SignPKCS7`), `GoUefi/Model/AuthDesc.lean` (the descriptor reader and the
UEFI layout `Spec.encAuth`), `GoUefi/Spec/Cms.lean` (RFC 2315/5652 verifier). Helper lemmas, the
inputs record `VarSignInputs` and its predicates: `GoUefi/Lemmas/VarSign.lean`.

`x.buf` is `signedBuffer x.name x.guid x.attrs (efiTime x.t) x.payload`.
`VarSignInputs.WF x` is exactly `SignInputs.WF` (C05) for the inner call
`signPKCS7 oidData x.buf …`: `x.buf`, `certRaw`, `issuerRaw`, `md`, `sig` and the serial number's
bytes are each shorter than 2^24, `issuerRaw` is one SEQUENCE element, `parseUTC timeText =
some timeText` (the two OID conditions hold for id-data by evaluation; nothing is said about
`x509.ParseCertificates`, the library parses nothing back here).
No theorem assumes `VarSignInputs.InRange x` (what the Go types can hold: `guid.length = 16`,
`attrs < 2^32`, `year < 2^16`, the other time fields `< 256`): the statements hold of the model for
all values, `le32` and `toUInt8` reducing what is out of range, and `C06_efitime` names the ranges
it needs. The sample inputs are shown to be in range.
-/
namespace GoUefi.C06
open GoUefi GoUefi.Der GoUefi.Impl

/-- EFI_TIME is 16 bytes: Year as a little-endian uint16, Month, Day, Hour, Minute, Second, then
    nine zero bytes — Pad1, Nanosecond (4), TimeZone (2), Daylight and Pad2 are all zero. With the
    fields in range the bytes carry the field values themselves (nothing is truncated). -/
theorem C06_efitime (t : Civil) (hy : t.year < 2^16) (hmo : t.month < 256) (hd : t.day < 256)
    (hh : t.hour < 256) (hmi : t.minute < 256) (hs : t.second < 256) :
    (efiTime t).length = 16 ∧
    efiTime t = le16 t.year ++ [t.month.toUInt8, t.day.toUInt8, t.hour.toUInt8, t.minute.toUInt8,
      t.second.toUInt8, 0, 0, 0, 0, 0, 0, 0, 0, 0] ∧
    (efiTime t).map UInt8.toNat =
      [t.year % 256, t.year / 256, t.month, t.day, t.hour, t.minute, t.second,
       0, 0, 0, 0, 0, 0, 0, 0, 0] := by
  refine ⟨efiTime_length t, rfl, ?_⟩
  have hy' : t.year / 256 < 256 := Nat.div_lt_of_lt_mul hy
  simp only [efiTime, le16, le32, List.cons_append, List.nil_append, List.map_cons, List.map_nil]
  rw [toUInt8_toNat_of_lt _ (Nat.mod_lt _ (by decide)), Nat.mod_eq_of_lt hy',
    toUInt8_toNat_of_lt _ hy', toUInt8_toNat_of_lt _ hmo,
    toUInt8_toNat_of_lt _ hd, toUInt8_toNat_of_lt _ hh, toUInt8_toNat_of_lt _ hmi,
    toUInt8_toNat_of_lt _ hs]
  rfl

/-- The timestamp of the model is a function of the UTC civil time alone: there is no zone
    parameter, and the TimeZone and Daylight bytes (offsets 12–14) are zero whatever `t` is. (That
    the Go code feeds it `time.Now().UTC()` is established by the differential runs under three TZ
    settings and by the extracted-source obligation in `C06x.lean`.) -/
theorem C06_time_fields (t : Civil) :
    efiTime t = le16 t.year ++ [t.month.toUInt8, t.day.toUInt8, t.hour.toUInt8, t.minute.toUInt8,
      t.second.toUInt8, 0, 0, 0, 0, 0, 0, 0, 0, 0] ∧
    (efiTime t).drop 7 = [0, 0, 0, 0, 0, 0, 0, 0, 0] :=
  ⟨rfl, rfl⟩

/-- The PKCS7 certificate-type GUID 4aafd29d-68df-49ee-8aa9-347d375665a7 in EFI wire order. -/
theorem C06_guid : guidPkcs7 =
    [0x9d, 0xd2, 0xaf, 0x4a, 0xdf, 0x68, 0xee, 0x49, 0x8a, 0xa9, 0x34, 0x7d, 0x37, 0x56, 0x65, 0xa7] := by
  decide

/-- Under the hypotheses of the inner `SignPKCS7` call, `SignEFIVariable` does produce an output. -/
theorem C06_exists (x : VarSignInputs) (h : x.WF) :
    varSign x.name x.guid x.attrs x.t x.payload x.certRaw x.issuerRaw x.serial x.timeText x.md x.sig
      ≠ none := by
  show x.run ≠ none
  rw [x.run_eq h]
  nofun

/-- Layout: the output is the 16-byte timestamp, the WIN_CERTIFICATE_UEFI_GUID header — dwLength =
    24 + the signature's length, wRevision 0x0200, wCertificateType 0x0EF1, the PKCS7 type GUID —
    then `sd`, then the payload unchanged; `sd` is what `SignPKCS7` (content type id-data, over the
    signed buffer) placed inside the `[0]` of its outer ContentInfo, i.e. a *bare* DER SignedData:
    one SEQUENCE, not wrapped in a ContentInfo. -/
theorem C06_layout (x : VarSignInputs) (h : x.WF) (out : Bytes)
    (ho : varSign x.name x.guid x.attrs x.t x.payload x.certRaw x.issuerRaw x.serial x.timeText
      x.md x.sig = some out) :
    ∃ sd, signPKCS7 oidData x.buf x.certRaw x.issuerRaw x.serial x.timeText x.md x.sig =
        some (addASN1 tSEQ (oidOr oidSignedData ++ addASN1 tCtx0 sd)) ∧
      (∃ body, sd = addASN1 tSEQ body) ∧
      out = efiTime x.t ++ le32 (24 + sd.length) ++ le16 0x0200 ++ le16 0x0EF1 ++ guidPkcs7 ++
        sd ++ x.payload :=
  ⟨x.sd, x.signPKCS7_eq, ⟨_, rfl⟩, Option.some.inj (ho.symm.trans (x.run_eq h))⟩

/-- The library's own reader splits the output into the descriptor — timestamp, header with
    dwLength = 24 + |sd| (< 2^32), revision 0x0200, type 0x0EF1, the PKCS7 GUID, certificate data
    `sd` — and the untouched payload; the output is the UEFI layout `Spec.encAuth` of that
    descriptor followed by the payload, and the descriptor occupies 16 + dwLength bytes. -/
theorem C06_descriptor_decodes (x : VarSignInputs) (h : x.WF) (out sd : Bytes)
    (ho : varSign x.name x.guid x.attrs x.t x.payload x.certRaw x.issuerRaw x.serial x.timeText
      x.md x.sig = some out)
    (hs : signPKCS7 oidData x.buf x.certRaw x.issuerRaw x.serial x.timeText x.md x.sig =
      some (addASN1 tSEQ (oidOr oidSignedData ++ addASN1 tCtx0 sd))) :
    24 + sd.length < 2^32 ∧
    out = Spec.encAuth ⟨efiTime x.t, 24 + sd.length, 0x0200, 0x0EF1, guidPkcs7, sd⟩ ++ x.payload ∧
    out.length = 16 + (24 + sd.length) + x.payload.length ∧
    readAuth out = .ok (⟨efiTime x.t, ⟨⟨24 + sd.length, 0x0200, 0x0EF1, []⟩, guidPkcs7, sd⟩⟩, x.payload) := by
  cases x.sd_unique sd hs
  have hlen := x.sd_length h
  obtain ⟨hl, hd⟩ := C10.C10_decode ⟨efiTime x.t, 24 + x.sd.length, 0x0200, 0x0EF1, guidPkcs7, x.sd⟩
    x.payload ⟨efiTime_length _, show guidPkcs7.length = 16 by decide, rfl, hlen, show 0x0200 < 2^16 by decide,
      show 0x0EF1 < 2^16 by decide⟩ rfl rfl
  -- the closed form of the output is, by unfolding, the UEFI layout of this descriptor
  have he : out = Spec.encAuth ⟨efiTime x.t, 24 + x.sd.length, 0x0200, 0x0EF1, guidPkcs7, x.sd⟩ ++ x.payload :=
    Option.some.inj (ho.symm.trans (x.run_eq h))
  refine ⟨hlen, he, ?_, ?_⟩
  · rw [he, List.length_append, hl]
  · rw [he]; exact hd

/-- The verdict of the RFC verifier on the bare SignedData of a signed update, taken as a detached
    signature over ANY buffer `v`; `C06_binding` and `C06_binding_exclusive` read it at the signed
    buffer and at a buffer with another digest. -/
theorem cmsVerify_sd (C : Crypto) (c : Cert) (x : VarSignInputs) (h : x.WF) (v : Bytes) :
    Spec.cmsVerify C x.sd c (some v) =
      ((x.issuerRaw == c.rawIssuer && (x.serial : Int) == c.serial) &&
        (C.rsaVerify c.pub (addASN1 tSET x.sign.attrs) x.sig && x.md == C.sha256 v)) := by
  -- content type id-data: nothing is encapsulated, the verifier hashes what the caller supplies
  have hatt : attached x.sign.oid x.sign.content = false := by simp [attached, VarSignInputs.sign]
  rw [VarSignInputs.sd, cmsVerify_bare_eq C c x.sign (blob_length_lt _ _ h.toSign),
    cmsVerify_blob_eq C c x.sign _ h.toSign, hatt]
  rfl

/-- Binding: the bare SignedData is a detached signature that the RFC verifier accepts, for the
    signing certificate, over exactly name (each byte followed by 0x00, unterminated:
    `C06_signed_buffer`) ‖ vendor GUID ‖ attributes ‖ timestamp ‖ payload — provided the
    messageDigest attribute is the SHA-256 of that buffer and the RSA signature is valid over SET OF
    the signed attributes. -/
theorem C06_binding (C : Crypto) (c : Cert) (x : VarSignInputs) (h : x.WF) (sd ab' : Bytes)
    (hs : signPKCS7 oidData x.buf x.certRaw x.issuerRaw x.serial x.timeText x.md x.sig =
      some (addASN1 tSEQ (oidOr oidSignedData ++ addASN1 tCtx0 sd)))
    (hab : attrsBody { contentType := some oidData, md := x.md, time := some x.timeText } = some ab')
    (hi : c.rawIssuer = x.issuerRaw) (hser : c.serial = (x.serial : Int))
    (hmd : x.md = C.sha256 x.buf)
    (hsig : C.rsaVerify c.pub (addASN1 tSET ab') x.sig = true) :
    Spec.cmsVerify C sd c (some x.buf) = true := by
  cases x.sd_unique sd hs
  obtain ⟨_, rfl⟩ := attrsBody_signed_iff.mp hab
  rw [cmsVerify_sd C c x h, ← hi, ← hser, ← hmd]
  simp [show C.rsaVerify c.pub (addASN1 tSET x.sign.attrs) x.sig = true from hsig]

/-- Exclusivity: the same SignedData verifies over nothing else, up to the digest — for any buffer
    whose SHA-256 differs from the messageDigest attribute the RFC verifier rejects, for every
    certificate and whatever the RSA check says. -/
theorem C06_binding_exclusive (C : Crypto) (c : Cert) (x : VarSignInputs) (h : x.WF) (sd buf' : Bytes)
    (hs : signPKCS7 oidData x.buf x.certRaw x.issuerRaw x.serial x.timeText x.md x.sig =
      some (addASN1 tSEQ (oidOr oidSignedData ++ addASN1 tCtx0 sd)))
    (hne : C.sha256 buf' ≠ x.md) :
    Spec.cmsVerify C sd c (some buf') = false := by
  cases x.sd_unique sd hs
  rw [cmsVerify_sd C c x h, beq_eq_false_iff_ne.mpr hne.symm, Bool.and_false, Bool.and_false]

/-- End to end: a reader of the produced bytes obtains a descriptor and a payload such that the
    certificate data of the descriptor verifies, as a detached RFC signature, over the buffer
    rebuilt from the variable name, GUID, attributes, the descriptor's own timestamp and the
    returned payload. -/
theorem C06_binding_decoded (C : Crypto) (c : Cert) (x : VarSignInputs) (h : x.WF) (out ab' : Bytes)
    (ho : varSign x.name x.guid x.attrs x.t x.payload x.certRaw x.issuerRaw x.serial x.timeText
      x.md x.sig = some out)
    (hab : attrsBody { contentType := some oidData, md := x.md, time := some x.timeText } = some ab')
    (hi : c.rawIssuer = x.issuerRaw) (hser : c.serial = (x.serial : Int))
    (hmd : x.md = C.sha256 x.buf)
    (hsig : C.rsaVerify c.pub (addASN1 tSET ab') x.sig = true) :
    ∃ d rest, readAuth out = .ok (d, rest) ∧ rest = x.payload ∧ d.auth.certType = guidPkcs7 ∧
      Spec.cmsVerify C d.auth.data c (some (signedBuffer x.name x.guid x.attrs d.time rest)) = true := by
  obtain ⟨sd, hs, _, _⟩ := C06_layout x h out ho
  obtain ⟨_, _, _, hd⟩ := C06_descriptor_decodes x h out sd ho hs
  exact ⟨_, _, hd, rfl, rfl, C06_binding C c x h sd ab' hs hab hi hser hmd hsig⟩

/-- The signed buffer is name bytes each followed by 0x00 ‖ GUID ‖ attributes as a little-endian
    uint32 ‖ timestamp ‖ payload; the name part has 2·|name| bytes (no terminator), and for an
    ASCII name it is the UTF-16LE encoding (the C17 encoder `utf16enc` / `unitsToBytes`) of the
    name's characters. -/
theorem C06_signed_buffer (name guid : Bytes) (attrs : Nat) (time payload : Bytes) :
    signedBuffer name guid attrs time payload =
      (name.flatMap fun b => [b, 0]) ++ guid ++ le32 attrs ++ time ++ payload ∧
    (name.flatMap fun b => [b, (0 : UInt8)]).length = 2 * name.length ∧
    ((∀ b ∈ name, b.toNat < 128) →
      name.flatMap (fun b => [b, 0]) =
        unitsToBytes (utf16enc (name.map fun b => Char.ofNat b.toNat))) :=
  ⟨rfl, name_flat_length name, fun _ => name_utf16 name⟩

/-! ### non-vacuity: concrete values meeting the hypotheses -/

open VarSignInputs (sample)

/-- variable "db", GUID d719b2cb-3d3a-4596-a3bc-dad00e67656f, attributes 0x27, a 76-byte payload -/
example : sample.name = [0x64, 0x62] ∧ sample.attrs = 0x27 ∧ sample.payload.length = 76 ∧
    sample.guid = guidWire ⟨0xd719b2cb, 0x3d3a, 0x4596, [0xa3, 0xbc, 0xda, 0xd0, 0x0e, 0x67, 0x65, 0x6f]⟩ := by
  decide
theorem sample_wf : sample.WF :=
  ⟨by decide, by decide, by decide, by decide, by decide, by decide, ⟨[], by decide⟩, by decide⟩
example : sample.WF := sample_wf
example : sample.InRange :=
  ⟨by decide, by decide, by decide, by decide, by decide, by decide, by decide, by decide⟩
example : efiTime sample.t = [0xea, 0x07, 9, 29, 20, 30, 0, 0, 0, 0, 0, 0, 0, 0, 0, 0] := by decide
example : sample.buf = [0x64, 0, 0x62, 0] ++ sample.guid ++ [0x27, 0, 0, 0] ++ efiTime sample.t ++
    sample.payload := by decide +kernel
example : sample.buf.length = 116 := by decide
example : sample.sd.length = 165 ∧ sample.sd.take 2 = [0x30, 0x81] := by decide +kernel
example : signPKCS7 oidData sample.buf sample.certRaw sample.issuerRaw sample.serial sample.timeText
    sample.md sample.sig = some (addASN1 tSEQ (oidOr oidSignedData ++ addASN1 tCtx0 sample.sd)) :=
  sample.signPKCS7_eq
/-- the conclusions, evaluated on the concrete inputs -/
example : varSign sample.name sample.guid sample.attrs sample.t sample.payload sample.certRaw
    sample.issuerRaw sample.serial sample.timeText sample.md sample.sig =
    some (efiTime sample.t ++ [0xbd, 0, 0, 0] ++ [0x00, 0x02] ++ [0xf1, 0x0e] ++ guidPkcs7 ++
      sample.sd ++ sample.payload) := VarSignInputs.sample_run
example : readAuth (efiTime sample.t ++ le32 (24 + sample.sd.length) ++ le16 0x0200 ++ le16 0x0EF1 ++
      guidPkcs7 ++ sample.sd ++ sample.payload) =
    .ok (⟨efiTime sample.t, ⟨⟨189, 0x0200, 0x0EF1, []⟩, guidPkcs7, sample.sd⟩⟩, sample.payload) := by
  decide +kernel
example : (attrsBody { contentType := some oidData, md := sample.md, time := some sample.timeText }).isSome
    = true := by decide
/-- the crypto hypotheses are satisfiable: a `Crypto` whose digest of the signed buffer is `md` -/
example : ∃ (C : Crypto) (c : Cert), c.rawIssuer = sample.issuerRaw ∧ c.serial = (sample.serial : Int) ∧
    (∀ m, C.rsaVerify c.pub m sample.sig = true) ∧ sample.md = C.sha256 sample.buf :=
  ⟨⟨fun _ => [9, 9], fun _ _ _ => true⟩, ⟨[0x30, 0], 0x1234, ⟨1, 1⟩⟩, rfl, rfl, fun _ => rfl, rfl⟩
/-- `C06_binding` and `C06_binding_exclusive` apply: the specification accepts the concrete bare
    SignedData over the signed buffer when the digest matches, and rejects it over a buffer with
    another digest (here: the payload's last byte changed, under a toy digest that depends on the
    last byte) -/
example : Spec.cmsVerify ⟨fun _ => [9, 9], fun _ _ _ => true⟩ sample.sd ⟨[0x30, 0], 0x1234, ⟨1, 1⟩⟩
    (some sample.buf) = true :=
  C06_binding _ _ sample sample_wf _ _ sample.signPKCS7_eq (attrsBody_signed_iff.mpr ⟨by decide, rfl⟩)
    rfl rfl rfl rfl
example : Spec.cmsVerify ⟨fun b => [9, b.getLastD 0 - 0x51], fun _ _ _ => true⟩ sample.sd
    ⟨[0x30, 0], 0x1234, ⟨1, 1⟩⟩ (some sample.buf) = true :=
  C06_binding _ _ sample sample_wf _ _ sample.signPKCS7_eq (attrsBody_signed_iff.mpr ⟨by decide, rfl⟩)
    rfl rfl (by decide +kernel) rfl
example : Spec.cmsVerify ⟨fun b => [9, b.getLastD 0 - 0x51], fun _ _ _ => true⟩ sample.sd
    ⟨[0x30, 0], 0x1234, ⟨1, 1⟩⟩ (some (sample.buf.dropLast ++ [0x5b])) = false :=
  C06_binding_exclusive _ _ sample sample_wf _ _ sample.signPKCS7_eq (by decide +kernel)
/-- another certificate (serial) is not accepted: the verdict is not trivially true -/
example : Spec.cmsVerify ⟨fun _ => [9, 9], fun _ _ _ => true⟩ sample.sd ⟨[0x30, 0], 0x1235, ⟨1, 1⟩⟩
    (some sample.buf) = false := by
  rw [cmsVerify_sd _ _ sample sample_wf]
  decide
/-- "db" is ASCII: its two-byte units are the UTF-16LE encoding of the string -/
example : (∀ b ∈ sample.name, b.toNat < 128) ∧
    unitsToBytes (utf16enc (sample.name.map fun b => Char.ofNat b.toNat)) = [0x64, 0, 0x62, 0] ∧
    sample.name.map (fun b => Char.ofNat b.toNat) = ['d', 'b'] := by decide
/-- an out-of-range month would be truncated by the uint8 field: the range hypotheses of
    `C06_efitime` are not automatic -/
example : (efiTime ⟨2026, 256 + 9, 29, 20, 30, 0⟩).map UInt8.toNat ≠
    [2026 % 256, 2026 / 256, 256 + 9, 29, 20, 30, 0, 0, 0, 0, 0, 0, 0, 0, 0, 0] := by decide

#print axioms C06_efitime
#print axioms C06_time_fields
#print axioms C06_guid
#print axioms C06_exists
#print axioms C06_layout
#print axioms C06_descriptor_decodes
#print axioms C06_binding
#print axioms C06_binding_exclusive
#print axioms C06_binding_decoded
#print axioms C06_signed_buffer

end GoUefi.C06

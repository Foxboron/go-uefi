import GoUefi.Gen
import GoUefi.Base
import GoUefi.Lemmas.GenFmt
/-!
# C01 (generated tie) — the padding arithmetic of the current source

`authenticode.PaddingBytes(srcLen, blockSize)` (authenticode/checksum.go) translated by `tools/go2lean`:
`fullyPadded := (srcLen + blockSize - 1) &^ (blockSize - 1)`, `padLen := fullyPadded - srcLen`,
`make([]byte, padLen)`.  `&^` on Go's `int` is the prelude's `intAndNot` (exact on 64-bit two's-complement
ints).  For every block size `2^k` (`k ≤ 61`; the library uses 8) and every length `0 ≤ srcLen < 2^62` the
function returns `(2^k - srcLen % 2^k) % 2^k` zero bytes — for `k = 3` the model's `pad8`, which is what
`Impl.parse` (Model/Pe.lean), `Spec.padded` (Spec/Pe.lean) and the certificate-table walkers use.
-/
namespace GoUefi.C01
open GoUefi GoUefi.Gen

/-- the translated `PaddingBytes` for a block size `2^k` and a length given as a natural number -/
theorem C01g_padding_nat (n k : Nat) (hn : n < 2 ^ 62) (hk : k ≤ 61) :
    authenticode.PaddingBytes (n : Int) ((2 ^ k : Nat) : Int) =
      (List.replicate ((2 ^ k - n % 2 ^ k) % 2 ^ k) 0, (((2 ^ k - n % 2 ^ k) % 2 ^ k : Nat) : Int)) := by
  have hpos : 0 < 2 ^ k := Nat.two_pow_pos k
  have hpow : 2 ^ k ≤ 2 ^ 61 := Nat.pow_le_pow_right Nat.two_pos hk
  have ea : (n : Int) + ((2 ^ k : Nat) : Int) - 1 = ((n + 2 ^ k - 1 : Nat) : Int) := by
    rw [Int.natCast_sub (Nat.le_trans hpos (Nat.le_add_left ..)), Int.natCast_add]
    rfl
  have eb : ((2 ^ k : Nat) : Int) - 1 = ((2 ^ k - 1 : Nat) : Int) := (Int.natCast_sub hpos).symm
  unfold authenticode.PaddingBytes
  simp only []
  -- `fullyPadded` is `srcLen` rounded up to a multiple of the block size
  rw [ea, eb, GenFmt.intAndNot_mask_nat (n + 2 ^ k - 1) k (by omega) (Nat.le_trans hk (by decide)), GenFmt.roundUp_sub n (2 ^ k) hpos,
    Int.natCast_add, Int.add_comm, Int.add_sub_cancel, Int.toNat_natCast]

/-- **every power-of-two block size**: for `0 ≤ srcLen < 2^62` and `blockSize = 2^k`, `k ≤ 61`, the function returns
    `padLen = (blockSize - srcLen % blockSize) % blockSize` and a slice of `padLen` zero bytes -/
theorem C01g_padding_pow2 (srcLen : Int) (k : Nat) (h0 : 0 ≤ srcLen) (h : srcLen < 2 ^ 62) (hk : k ≤ 61) :
    authenticode.PaddingBytes srcLen ((2 : Int) ^ k) =
      (List.replicate (((2 : Int) ^ k - srcLen % (2 : Int) ^ k) % (2 : Int) ^ k).toNat 0,
       ((2 : Int) ^ k - srcLen % (2 : Int) ^ k) % (2 : Int) ^ k) := by
  obtain ⟨n, rfl⟩ := Int.eq_ofNat_of_zero_le h0
  have hn : n < 2 ^ 62 := by
    have : ((2 : Int) ^ 62) = ((2 ^ 62 : Nat) : Int) := by decide
    omega
  have hpos : 0 < 2 ^ k := Nat.two_pow_pos k
  have e2 : (2 : Int) ^ k = ((2 ^ k : Nat) : Int) := by rw [Int.natCast_pow]; rfl
  have hr : n % 2 ^ k < 2 ^ k := Nat.mod_lt n hpos
  have e3 : (((2 ^ k : Nat) : Int) - (n : Int) % ((2 ^ k : Nat) : Int)) % ((2 ^ k : Nat) : Int)
      = (((2 ^ k - n % 2 ^ k) % 2 ^ k : Nat) : Int) := by
    rw [← Int.natCast_emod, ← Int.natCast_sub (Nat.le_of_lt hr), ← Int.natCast_emod]
  rw [e2, e3, Int.toNat_natCast]
  exact C01g_padding_nat n k hn hk

/-- what the library calls: `blockSize = 8`.  `padLen = (8 - srcLen % 8) % 8`, the slice is `padLen` zero bytes,
    `srcLen + padLen` is a multiple of 8 and `padLen < 8`. -/
theorem C01g_padding8 (srcLen : Int) (h0 : 0 ≤ srcLen) (h : srcLen < 2 ^ 62) :
    let r := authenticode.PaddingBytes srcLen 8
    r.2 = (8 - srcLen % 8) % 8 ∧ r.1 = List.replicate r.2.toNat 0 ∧
    (srcLen + r.2) % 8 = 0 ∧ 0 ≤ r.2 ∧ r.2 < 8 := by
  have h8 := C01g_padding_pow2 srcLen 3 h0 h (by omega)
  have e8 : (2 : Int) ^ 3 = 8 := by decide
  rw [e8] at h8
  dsimp only
  rw [h8]
  obtain ⟨h1, h2, h3⟩ := GenFmt.pad_aligned srcLen 8 (by decide)
  exact ⟨rfl, rfl, h1, h2, h3⟩

/-- the same for every power of two: aligned, and less than one block -/
theorem C01g_padding_aligned (srcLen : Int) (k : Nat) (h0 : 0 ≤ srcLen) (h : srcLen < 2 ^ 62) (hk : k ≤ 61) :
    let r := authenticode.PaddingBytes srcLen ((2 : Int) ^ k)
    (srcLen + r.2) % (2 : Int) ^ k = 0 ∧ 0 ≤ r.2 ∧ r.2 < (2 : Int) ^ k ∧ r.1.length = r.2.toNat ∧ ∀ b ∈ r.1, b = 0 := by
  dsimp only
  rw [C01g_padding_pow2 srcLen k h0 h hk]
  obtain ⟨h1, h2, h3⟩ := GenFmt.pad_aligned srcLen ((2 : Int) ^ k) (Int.pow_pos (by omega))
  exact ⟨h1, h2, h3, List.length_replicate, fun b hb => (List.mem_replicate.mp hb).2⟩

/-- tie to the hand-written model: with the library's block size the translated function pads by the model's `pad8`
    (`Impl.parse`, `Spec.padded`, the certificate-table walkers) -/
theorem C01g_padding_model (n : Nat) (hn : n < 2 ^ 62) :
    authenticode.PaddingBytes (n : Int) 8 = (zeros (pad8 n), (pad8 n : Int)) :=
  C01g_padding_nat n 3 hn (by omega)

example : authenticode.PaddingBytes 1000003 8 = ([0, 0, 0, 0, 0], 5) := by decide +kernel
example : authenticode.PaddingBytes 16 8 = ([], 0) := by decide +kernel
example : authenticode.PaddingBytes 4611686018427387903 4096 = (List.replicate 1 0, 1) := by decide +kernel
-- a block size that is not a power of two is outside the theorems: 7 &^ 2 = 5, no padding although 3 ∤ 5
example : (authenticode.PaddingBytes 5 3).2 = 0 := by decide +kernel
-- block size 0: the translation yields a negative `padLen` and an empty slice; in Go `make([]byte, padLen)` PANICS
-- here (`makeslice: len out of range`) — a negative `make` length is not modelled by the translator (DESIGN §3)
example : authenticode.PaddingBytes 5 0 = ([], -5) := by decide +kernel

end GoUefi.C01

#print axioms GoUefi.C01.C01g_padding_nat
#print axioms GoUefi.C01.C01g_padding_pow2
#print axioms GoUefi.C01.C01g_padding8
#print axioms GoUefi.C01.C01g_padding_aligned
#print axioms GoUefi.C01.C01g_padding_model

import GoUefi.Lemmas.AuthDesc
/-!
# C10 — authentication descriptors and WIN_CERTIFICATEs decode by declared length and round-trip

Model: `GoUefi/Model/AuthDesc.lean` (efi/signature/varsign.go); helper lemmas and the
well-formedness predicate `Impl.AuthDesc.WF`: `GoUefi/Lemmas/AuthDesc.lean`.
-/
namespace GoUefi.C10
open GoUefi

/-- A WIN_CERTIFICATE whose dwLength is 8 + |body| decodes to exactly its fields: the reader
    consumes dwLength bytes, and whatever follows (`rest`) is handed back untouched. -/
theorem C10_wincert_decode (body rest : Bytes) (ctype : Nat)
    (h : body.length + 8 < 2^32) (hc : ctype < 2^16) :
    Impl.readWinCert (le32 (8 + body.length) ++ le16 0x0200 ++ le16 ctype ++ body ++ rest) =
      .ok (⟨8 + body.length, 0x0200, ctype, body⟩, rest) :=
  Impl.readWinCert_eq_ok.mpr ⟨⟨rfl, Nat.add_comm body.length 8 ▸ h, rfl, hc⟩, rfl⟩

/-- Writing back a decoded WIN_CERTIFICATE, followed by the unread rest, reproduces the input. -/
theorem C10_wincert_decode_encode (bs : Bytes) (w : Impl.WinCert) (rest : Bytes)
    (h : Impl.readWinCert bs = .ok (w, rest)) : Impl.writeWinCert w ++ rest = bs :=
  Impl.writeWinCert_readWinCert h

/-- Decoding the specified layout of an EFI_VARIABLE_AUTHENTICATION_2 recovers every field; the
    descriptor occupies exactly 16 + dwLength bytes and the payload `rest` that follows is returned
    untouched. -/
theorem C10_decode (a : Spec.Auth) (rest : Bytes) (h : a.WF) (hrev : a.rev = 0x0200)
    (hct : a.ctype = 0x0EF1) :
    (Spec.encAuth a).length = 16 + a.dwLength ∧
    Impl.readAuth (Spec.encAuth a ++ rest) =
      .ok (⟨a.time, ⟨⟨a.dwLength, a.rev, a.ctype, []⟩, a.guid, a.data⟩⟩, rest) :=
  ⟨encAuth_length a h, Impl.readAuth_eq_ok.mpr ⟨⟨h.1, h.2.1, rfl, h.2.2.1, h.2.2.2.1, hrev, hct⟩,
    by rw [writeAuth_eq_encAuth _ rfl]⟩⟩

/-- The writer emits the specified layout, and decoding what it wrote returns the value, for every
    well-formed descriptor. -/
theorem C10_encode_decode (d : Impl.AuthDesc) (rest : Bytes) (h : d.WF) :
    Impl.writeAuth d = Spec.encAuth ⟨d.time, d.auth.hdr.length, d.auth.hdr.rev, d.auth.hdr.ctype,
      d.auth.certType, d.auth.data⟩ ∧
    Impl.readAuth (Impl.writeAuth d ++ rest) = .ok (d, rest) :=
  ⟨writeAuth_eq_encAuth d h.2.2.1, Impl.readAuth_eq_ok.mpr ⟨h, rfl⟩⟩

/-- Every successfully decoded descriptor is well-formed (so `C10_encode_decode` applies to it). -/
theorem C10_decoded_wf (bs : Bytes) (d : Impl.AuthDesc) (rest : Bytes)
    (h : Impl.readAuth bs = .ok (d, rest)) : d.WF :=
  (Impl.readAuth_eq_ok.mp h).1

/-- Writing back a decoded descriptor, followed by the payload, reproduces the input bytes. -/
theorem C10_decode_encode (bs : Bytes) (d : Impl.AuthDesc) (rest : Bytes)
    (h : Impl.readAuth bs = .ok (d, rest)) : Impl.writeAuth d ++ rest = bs :=
  (Impl.readAuth_eq_ok.mp h).2.symm

/-- Whenever the reader succeeds it agrees with the specification's decode-by-declared-length. -/
theorem C10_refines_spec (bs : Bytes) (d : Impl.AuthDesc) (rest : Bytes)
    (h : Impl.readAuth bs = .ok (d, rest)) :
    Spec.decodeAuth bs = some (⟨d.time, d.auth.hdr.length, d.auth.hdr.rev, d.auth.hdr.ctype,
      d.auth.certType, d.auth.data⟩, rest) := by
  obtain ⟨⟨ht, hg, hc, hlen, hlt, hrev, hct⟩, rfl⟩ := Impl.readAuth_eq_ok.mp h
  rw [writeAuth_eq_encAuth d hc]
  exact decodeAuth_encAuth _ rest ⟨ht, hg, hlen, hlt, show d.auth.hdr.rev < 2^16 by rw [hrev]; decide,
    show d.auth.hdr.ctype < 2^16 by rw [hct]; decide⟩

/-! ### non-vacuity: concrete values meeting the hypotheses -/
example : (⟨zeros 16, 27, 0x0200, 0x0EF1, zeros 16, [1, 2, 3]⟩ : Spec.Auth).WF := by decide
example : Impl.readAuth (Spec.encAuth ⟨zeros 16, 27, 0x0200, 0x0EF1, zeros 16, [1, 2, 3]⟩ ++ [9, 9]) =
    .ok (⟨zeros 16, ⟨⟨27, 0x0200, 0x0EF1, []⟩, zeros 16, [1, 2, 3]⟩⟩, [9, 9]) :=
  (C10_decode _ _ (by decide) rfl rfl).2
example : (⟨zeros 16, ⟨⟨27, 0x0200, 0x0EF1, []⟩, zeros 16, [1, 2, 3]⟩⟩ : Impl.AuthDesc).WF := by decide
example : Impl.readWinCert (le32 (8 + 2) ++ le16 0x0200 ++ le16 2 ++ [7, 8] ++ [5]) =
    .ok (⟨10, 0x0200, 2, [7, 8]⟩, [5]) := C10_wincert_decode [7, 8] [5] 2 (by decide) (by decide)
/-- a header that declares more than is present is rejected (nothing is read past the input) -/
example : Impl.readWinCert (le32 100 ++ le16 0x0200 ++ le16 2 ++ [7, 8]) = .err := by decide

#print axioms C10_wincert_decode
#print axioms C10_wincert_decode_encode
#print axioms C10_decode
#print axioms C10_encode_decode
#print axioms C10_decoded_wf
#print axioms C10_decode_encode
#print axioms C10_refines_spec

end GoUefi.C10

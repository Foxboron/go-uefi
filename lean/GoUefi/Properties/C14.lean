import GoUefi.Lemmas.AuthDesc
import GoUefi.Lemmas.SigDb
import GoUefi.Lemmas.Boot
/-!
# C14 — decoders of variable contents are total and bounded (dynamic part)

For EVERY byte string, every decoder entry point of firmware-variable / key-file contents returns a
value or an error: never a panic, never a process exit (`Outcome` constructors `.panic` / `.exit`),
never a loop that runs out of fuel — and what it returns is bounded by the size of its input.

Only the property theorems and their non-vacuity examples live here.  Models:
`GoUefi/Model/{SigDb,AuthDesc,Boot,Utf16,Guid}.lean`; helper lemmas: with each model's lemmas
(`GoUefi/Lemmas/{SigDb,AuthDesc,Boot,Utf16,Guid}.lean`).
(The static call-graph certificate of the same property is `GoUefi/Properties/C14x.lean`.)

The decoders `readDb`, `readList`, `readSig(s)`, `bootOrder`, `stringToGuid`, `bytesToGuid`, `hdText`,
`fileText` have result types `Option` / `Except` / plain values: the Go code they model has no crash
path, and a Lean function of such a type is total by construction.  For those the content is in the
fuel and size theorems (parts 2 and 3).
-/
namespace GoUefi.C14
open GoUefi GoUefi.Impl

/-! ### 1. outcome totality: neither `.panic` nor `.exit`, for all inputs -/

/-- `ReadWinCertificate` returns (a value or an error) on every byte string. -/
theorem C14_total_readWinCert (bs : Bytes) : readWinCert bs ≠ .panic ∧ readWinCert bs ≠ .exit :=
  (readWinCert_ensures bs).returns

/-- `ReadWinCertificateUEFIGUID` returns on every byte string. -/
theorem C14_total_readWinCertGuid (bs : Bytes) :
    readWinCertGuid bs ≠ .panic ∧ readWinCertGuid bs ≠ .exit :=
  (readWinCertGuid_ensures bs).returns

/-- `ReadEFIVariableAuthencation2` returns on every byte string. -/
theorem C14_total_readAuth (bs : Bytes) : readAuth bs ≠ .panic ∧ readAuth bs ≠ .exit :=
  (readAuth_ensures bs).returns

/-- `ParseUtf16Var` returns on every byte string (the empty one included: F12a). -/
theorem C14_total_parseUtf16 (bs : Bytes) : parseUtf16 bs ≠ .panic ∧ parseUtf16 bs ≠ .exit :=
  (parseUtf16_spec bs).returns

/-- `Efistring.Unmarshal` returns on every byte string. -/
theorem C14_total_efistringUnmarshal (bs : Bytes) :
    efistringUnmarshal bs ≠ .panic ∧ efistringUnmarshal bs ≠ .exit :=
  (parseUtf16_spec _).returns

/-- One turn of the `ParseDevicePath` loop returns on every byte string (F12: the sub-parsers report
    an error instead of calling `log.Fatal`). -/
theorem C14_total_parseNode (bs : Bytes) : parseNode bs ≠ .panic ∧ parseNode bs ≠ .exit :=
  (parseNode_spec bs).returns

/-- `ParseDevicePath` returns on every byte string, for every amount of fuel. -/
theorem C14_total_parseDevicePath (fuel : Nat) (bs : Bytes) :
    parseDevicePath fuel bs ≠ .panic ∧ parseDevicePath fuel bs ≠ .exit :=
  (parseDevicePath_spec fuel bs).returns

/-- `EFILoadOption.Unmarshal` returns on every byte string. -/
theorem C14_total_loadOptionUnmarshal (bs : Bytes) :
    loadOptionUnmarshal bs ≠ .panic ∧ loadOptionUnmarshal bs ≠ .exit :=
  (loadOptionUnmarshal_spec bs).returns

/-- The same eight facts through `Outcome.returns`. -/
theorem C14_total_returns (bs : Bytes) (fuel : Nat) :
    (readWinCert bs).returns = true ∧ (readWinCertGuid bs).returns = true ∧
    (readAuth bs).returns = true ∧ (parseUtf16 bs).returns = true ∧
    (efistringUnmarshal bs).returns = true ∧ (parseNode bs).returns = true ∧
    (parseDevicePath fuel bs).returns = true ∧ (loadOptionUnmarshal bs).returns = true :=
  ⟨(readWinCert_ensures bs).returns_true, (readWinCertGuid_ensures bs).returns_true,
    (readAuth_ensures bs).returns_true, (parseUtf16_spec bs).returns_true,
    (parseUtf16_spec _).returns_true, (parseNode_spec bs).returns_true,
    (parseDevicePath_spec fuel bs).returns_true, (loadOptionUnmarshal_spec bs).returns_true⟩

/-! ### 2. termination with linear fuel: the bound the entry points pass is never exhausted -/

/-- `ReadSignatureDatabase`: every list consumes at least 28 bytes, so `bs.length / 28 + 1` turns
    always suffice; with that much fuel (or more) the answer does not depend on the fuel. -/
theorem C14_readDb_fuel_sharp (bs : Bytes) (fuel : Nat) (h : bs.length / 28 + 1 ≤ fuel) :
    readDbAux fuel bs = readDb bs :=
  readDbAux_fuel_irrel fuel (bs.length + 1) bs h (Nat.succ_le_succ (Nat.div_le_self _ _))

/-- `ReadSignatureDatabase`: more fuel than the entry point passes does not change the answer (so
    `none` from `readDb` is always a decoding error, never "ran out of fuel"). -/
theorem C14_readDb_fuel (bs : Bytes) (fuel : Nat) (h : bs.length + 1 ≤ fuel) :
    readDbAux fuel bs = readDb bs :=
  C14_readDb_fuel_sharp bs fuel (Nat.le_trans (Nat.succ_le_succ (Nat.div_le_self _ _)) h)

/-- `ParseDevicePath`: every node consumes at least its 4 header bytes, so `bs.length / 4 + 1` turns
    always suffice. -/
theorem C14_devicepath_fuel_sharp (bs : Bytes) (fuel : Nat) (h : bs.length / 4 + 1 ≤ fuel) :
    parseDevicePath fuel bs = parseDevicePath (bs.length + 1) bs :=
  parseDevicePath_fuel_irrel fuel (bs.length + 1) bs h (Nat.succ_le_succ (Nat.div_le_self _ _))

/-- `ParseDevicePath`: more fuel than `bs.length + 1` does not change the answer (so the `.err` of
    the out-of-fuel branch is never what the entry point returns). -/
theorem C14_devicepath_fuel (bs : Bytes) (fuel : Nat) (h : bs.length + 1 ≤ fuel) :
    parseDevicePath fuel bs = parseDevicePath (bs.length + 1) bs :=
  C14_devicepath_fuel_sharp bs fuel (Nat.le_trans (Nat.succ_le_succ (Nat.div_le_self _ _)) h)

/-- `EFILoadOption.Unmarshal`: giving its internal device-path loop any amount of additional fuel
    (`loadOptionUnmarshalFuel extra` passes `rest.length + 1 + extra`) does not change the result. -/
theorem C14_loadOption_fuel (bs : Bytes) (extra : Nat) :
    loadOptionUnmarshalFuel extra bs = loadOptionUnmarshal bs := by
  -- the two differ in the fuel of the device-path loop only
  have e : ∀ r : Bytes, parseDevicePath (r.length + 1 + extra) r = parseDevicePath (r.length + 1) r :=
    fun r => C14_devicepath_fuel r _ (Nat.le_add_right _ _)
  unfold loadOptionUnmarshalFuel loadOptionUnmarshal
  simp only [e]
  rfl

/-- The signature loop of `ReadSignatureList`: `k` successful turns consume exactly `k * size`
    bytes of what is there. -/
theorem C14_readSigs_steps {size k : Nat} {bs : Bytes} {ss : List SData} {rest : Bytes}
    (h : readSigs size k bs = .ok (ss, rest)) (hs : 16 ≤ size) :
    k * size + rest.length = bs.length :=
  (readSigs_steps h hs).1

/-- … hence the loop succeeds only for `k ≤ bs.length / 16` (it returns an error as soon as the
    input is exhausted), and returns exactly `k` entries. -/
theorem C14_readSigs_turns {size k : Nat} {bs : Bytes} {ss : List SData} {rest : Bytes}
    (h : readSigs size k bs = .ok (ss, rest)) (hs : 16 ≤ size) :
    k ≤ bs.length / 16 ∧ ss.length = k := by
  obtain ⟨h1, h2⟩ := readSigs_steps h hs
  have : k * 16 ≤ bs.length :=
    Nat.le_trans (Nat.mul_le_mul_left k hs) (h1 ▸ Nat.le_add_right _ _)
  exact ⟨(Nat.le_div_iff_mul_le (by decide)).mpr this, h2⟩

/-- One `ReadSignatureList` consumes exactly the encoding of the list it returns, at least the 28
    header bytes. -/
theorem C14_readList_consumes {bs : Bytes} {l : SList} {rest : Bytes}
    (h : readList bs = .ok l rest) :
    (encList l).length + rest.length = bs.length ∧ 28 ≤ (encList l).length := by
  obtain ⟨e, w⟩ := readList_ok h
  exact ⟨by rw [e, List.length_append], encList_length_ge l w.1.1⟩

/-! ### 3. bounded work / allocation: what is returned is never larger than what was given -/

/-- `ReadSignatureDatabase`: the decoded database re-encodes to exactly as many bytes as were read,
    and no signature body is longer than the input. -/
theorem C14_readDb_size {bs : Bytes} {db : Db} (h : readDb bs = some db) :
    (encDb db).length = bs.length ∧ ∀ l ∈ db, ∀ s ∈ l.sigs, s.data.length ≤ bs.length :=
  ⟨by rw [← (readDb_ok h).1], readDb_data_le h⟩

/-- `ReadWinCertificate`: header (8) + returned body + unread rest is the input; the body is the
    declared length minus the header, and it was present. -/
theorem C14_readWinCert_size {bs : Bytes} {w : WinCert} {rest : Bytes}
    (h : readWinCert bs = .ok (w, rest)) :
    8 + w.cert.length + rest.length = bs.length ∧ w.length = 8 + w.cert.length :=
  readWinCert_size h

/-- `ReadEFIVariableAuthencation2`: time (16) + header (8) + type GUID (16) + returned data + unread
    rest is the input. -/
theorem C14_readAuth_size {bs : Bytes} {d : AuthDesc} {rest : Bytes}
    (h : readAuth bs = .ok (d, rest)) :
    16 + 8 + 16 + d.auth.data.length + rest.length = bs.length :=
  (readAuth_size h).1

/-- `EFILoadOption.Unmarshal`, sharp form: two bytes per character of the description, four per
    returned node, four for the end node and four of the six fixed header bytes. -/
theorem C14_loadOption_size_sharp {bs : Bytes} {lo : LoadOption} (h : loadOptionUnmarshal bs = .ok lo) :
    2 * lo.desc.length + 4 * (lo.nodes.length + 1) + 4 ≤ bs.length :=
  (loadOptionUnmarshal_spec bs).of_ok h

/-- `EFILoadOption.Unmarshal`: description and node list are bounded by the input. -/
theorem C14_loadOption_size {bs : Bytes} {lo : LoadOption} (h : loadOptionUnmarshal bs = .ok lo) :
    lo.desc.length ≤ bs.length ∧ lo.nodes.length ≤ bs.length / 4 + 1 := by
  have := (loadOptionUnmarshal_spec bs).of_ok h
  omega

/-- `ParseDevicePath`: a successful walk read `ns.length + 1` node headers. -/
theorem C14_devicepath_size {fuel : Nat} {bs : Bytes} {ns : List Node}
    (h : parseDevicePath fuel bs = .ok ns) : 4 * (ns.length + 1) ≤ bs.length :=
  (parseDevicePath_spec fuel bs).of_ok h

/-- `ParseUtf16Var`: at most one character per 2-byte code unit. -/
theorem C14_parseUtf16_size {bs : Bytes} {s : List Char} (h : parseUtf16 bs = .ok s) :
    s.length ≤ bs.length ∧ 2 * s.length ≤ bs.length + 1 := by
  have := (parseUtf16_spec bs).of_ok h
  omega

/-- `bootorder.Unmarshal`: at most one name per complete 2 bytes (F35 repair: a trailing odd byte
    gives none), each of 8 characters. -/
theorem C14_bootOrder_size (bs : Bytes) :
    (bootOrder bs).length ≤ bs.length / 2 ∧ ∀ n ∈ bootOrder bs, n.length = 8 :=
  ⟨Nat.le_of_eq (bootOrder_length bs), bootOrder_names bs⟩

/-! ### 4. the hard-drive text form is defined for every signature type -/

/-- `HardDriveMediaDevicePath.Format` produces a text for every partition number, signature and
    signature-type byte (F15b/c: types other than MBR = 1 and GPT = 2 are rendered numerically,
    no table is indexed). -/
theorem C14_hdText_total :
    ∀ (part : Nat) (start size sig : Bytes) (st : Nat), (hdText part start size sig st).length > 0 := by
  intro part start size sig st
  -- whatever the signature type, the text ends with the closing bracket
  have h : ∀ xs : List Char, (xs ++ [')']).length > 0 := fun xs => by
    rw [List.length_append]; exact Nat.succ_pos _
  unfold hdText
  simp only [← List.append_assoc]
  split
  · exact h _
  · split <;> exact h _

/-- the third branch: an unknown signature type is printed as a number followed by ",0" -/
theorem C14_hdText_other (part : Nat) (start size sig : Bytes) (st : Nat) (h1 : st ≠ 1) (h2 : st ≠ 2) :
    hdText part start size sig st =
      "HD(".toList ++ Nat.toDigits 10 part ++ [','] ++ Nat.toDigits 10 st ++ ",0".toList ++
        (",0x".toList ++ natHex (rd64 start) ++ ",0x".toList ++ natHex (rd64 size) ++ [')']) := by
  simp only [hdText, if_neg h1, if_neg h2]

/-- the MBR and GPT branches -/
theorem C14_hdText_mbr_gpt (part : Nat) (start size sig : Bytes) :
    hdText part start size sig 1 =
      "HD(".toList ++ Nat.toDigits 10 part ++ ",MBR,0x".toList ++ pad8Hex (rd32 (sig.take 4)) ++
        ",0x".toList ++ natHex (rd64 start) ++ ",0x".toList ++ natHex (rd64 size) ++ [')'] ∧
    hdText part start size sig 2 =
      "HD(".toList ++ Nat.toDigits 10 part ++ ",GPT,".toList ++ (guidOfWire sig).format ++
        ",0x".toList ++ natHex (rd64 start) ++ ",0x".toList ++ natHex (rd64 size) ++ [')'] :=
  ⟨hdText_mbr part start size sig, hdText_gpt part start size sig⟩

/-! ### 5. the plain-valued decoders: GUID forms and file paths -/

/-- `BytesToGUID` / `StringToGUID` produce a well-formed GUID (every field inside its width, eight
    trailing bytes) from every input, and `hex.DecodeString` yields at most one byte per two
    characters. -/
theorem C14_guid_total (bs : Bytes) (s : List Char) :
    (bytesToGuid bs).WF ∧ (stringToGuid s).WF ∧ 2 * (decodeHex s).length ≤ s.length :=
  ⟨bytesToGuid_wf bs, stringToGuid_wf s, decodeHex_length_le s⟩

/-- `FileTypeMediaDevicePath.Format` adds six characters to the path. -/
theorem C14_fileText_size (p : List Char) : (fileText p).length = p.length + 6 := by
  simp [fileText]

/-! ### non-vacuity: malformed inputs are errors, well-formed ones decode -/

/-- truncated / wrong revision / declared length below the header / longer than present -/
example : readWinCert [] = .err := by decide
example : readWinCert [9, 0, 0, 0, 0, 2] = .err := by decide
example : readWinCert (le32 9 ++ le16 0x0100 ++ le16 2 ++ [7]) = .err := by decide
example : readWinCert (le32 7 ++ le16 0x0200 ++ le16 2 ++ [7]) = .err := by decide
example : readWinCert (le32 0xffffffff ++ le16 0x0200 ++ le16 2 ++ [7]) = .err := by decide
example : readWinCert (le32 9 ++ le16 0x0200 ++ le16 2 ++ [7, 8]) = .ok (⟨9, 0x0200, 2, [7]⟩, [8]) := by
  decide
/-- body shorter than a GUID -/
example : readWinCertGuid (le32 9 ++ le16 0x0200 ++ le16 0x0EF1 ++ [7]) = .err := by decide
example : readWinCertGuid (le32 25 ++ le16 0x0200 ++ le16 0x0EF1 ++ zeros 16 ++ [7]) =
    .ok (⟨⟨25, 0x0200, 0x0EF1, []⟩, zeros 16, [7]⟩, []) := by decide +kernel
/-- short time stamp / certificate type that is not EFI_GUID -/
example : readAuth (zeros 15) = .err := by decide
example : readAuth (zeros 16 ++ le32 24 ++ le16 0x0200 ++ le16 2 ++ zeros 16) = .err := by decide
example : readAuth (zeros 16 ++ le32 24 ++ le16 0x0200 ++ le16 0x0EF1 ++ zeros 16 ++ [5]) =
    .ok (⟨zeros 16, ⟨⟨24, 0x0200, 0x0EF1, []⟩, zeros 16, []⟩⟩, [5]) := by decide +kernel
/-- empty / unterminated strings -/
example : parseUtf16 [] = .err := by decide
example : parseUtf16 [0x41, 0] = .err := by decide
example : parseUtf16 [0x41, 0, 0, 0] = .ok ['A'] := by decide
example : efistringUnmarshal [0x41] = .err := by decide
example : efistringUnmarshal [0x41, 0, 0, 0, 9, 9] = .ok ['A'] := by decide
/-- truncated nodes, the unimplemented expanded-ACPI node -/
example : parseNode [1, 1, 6] = .err := by decide
example : parseNode [1, 1, 6, 0, 3] = .err := by decide
example : parseNode [2, 2, 4, 0] = .err := by decide
example : parseNode [1, 1, 6, 0, 3, 4, 9] = .ok (some (.pci [1, 1, 6, 0] 3 4, [9])) := by decide
example : parseNode [0x7f, 0xff, 4, 0] = .ok none := by decide
/-- a path without end node is an error by exhaustion of the input, not of the fuel -/
example : parseDevicePath 100 [1, 1, 6, 0, 3, 4] = .err := by decide
example : parseDevicePath 7 ([1, 1, 6, 0, 3, 4] ++ Spec.endNode) = .ok [.pci [1, 1, 6, 0] 3 4] := by decide
example : loadOptionUnmarshal [1, 0, 0, 0, 9] = .err := by decide
example : loadOptionUnmarshal ([1, 0, 0, 0, 10, 0, 0x41, 0, 0, 0] ++ [1, 1, 6, 0, 3, 4] ++ Spec.endNode) =
    .ok ⟨1, 10, ['A'], [.pci [1, 1, 6, 0] 3 4]⟩ := by decide +kernel
/-- signature databases: truncated header / list size not matching / a valid SHA-256 list -/
example : readDb (zeros 20) = none := by decide
example : readDb (guidSha256 ++ le32 77 ++ le32 0 ++ le32 48 ++ zeros 48) = none := by decide +kernel
example : readDb (guidSha256 ++ le32 76 ++ le32 0 ++ le32 48 ++ zeros 48) =
    some [⟨guidSha256, 76, 0, 48, [], [⟨zeros 16, zeros 32⟩]⟩] := by decide +kernel
example : readDb [] = some [] := by decide
/-- the entry count is not taken from the header on trust: a list that declares 89 478 485 entries of
    48 bytes fails at the first missing one -/
example : readDb (guidSha256 ++ le32 0xffffffec ++ le32 0 ++ le32 48 ++ zeros 48) = none := by
  decide +kernel
example : bootOrder [1, 0, 0x2a] = ["Boot0001".toList] := by decide +kernel
example : hdText 1 (zeros 8) (zeros 8) (zeros 16) 7 = "HD(1,7,0,0x0,0x0)".toList := by decide +kernel
/-- text that is not a GUID gives the zero GUID, not a crash -/
example : stringToGuid "not-a-guid".toList = Guid.zero := by decide +kernel
example : stringToGuid "A5C059A1-94e4-4aa7-87b5-ab155c2bf072".toList =
    ⟨0xa5c059a1, 0x94e4, 0x4aa7, [0x87, 0xb5, 0xab, 0x15, 0x5c, 0x2b, 0xf0, 0x72]⟩ := by decide +kernel

end GoUefi.C14

#print axioms GoUefi.C14.C14_total_readWinCert
#print axioms GoUefi.C14.C14_total_readWinCertGuid
#print axioms GoUefi.C14.C14_total_readAuth
#print axioms GoUefi.C14.C14_total_parseUtf16
#print axioms GoUefi.C14.C14_total_efistringUnmarshal
#print axioms GoUefi.C14.C14_total_parseNode
#print axioms GoUefi.C14.C14_total_parseDevicePath
#print axioms GoUefi.C14.C14_total_loadOptionUnmarshal
#print axioms GoUefi.C14.C14_total_returns
#print axioms GoUefi.C14.C14_readDb_fuel_sharp
#print axioms GoUefi.C14.C14_readDb_fuel
#print axioms GoUefi.C14.C14_devicepath_fuel_sharp
#print axioms GoUefi.C14.C14_devicepath_fuel
#print axioms GoUefi.C14.C14_loadOption_fuel
#print axioms GoUefi.C14.C14_readSigs_steps
#print axioms GoUefi.C14.C14_readSigs_turns
#print axioms GoUefi.C14.C14_readList_consumes
#print axioms GoUefi.C14.C14_readDb_size
#print axioms GoUefi.C14.C14_readWinCert_size
#print axioms GoUefi.C14.C14_readAuth_size
#print axioms GoUefi.C14.C14_loadOption_size_sharp
#print axioms GoUefi.C14.C14_loadOption_size
#print axioms GoUefi.C14.C14_devicepath_size
#print axioms GoUefi.C14.C14_parseUtf16_size
#print axioms GoUefi.C14.C14_bootOrder_size
#print axioms GoUefi.C14.C14_hdText_total
#print axioms GoUefi.C14.C14_hdText_other
#print axioms GoUefi.C14.C14_hdText_mbr_gpt
#print axioms GoUefi.C14.C14_guid_total
#print axioms GoUefi.C14.C14_fileText_size

import GoUefi.Lemmas.VarFs
/-!
# C15 — dependency failures surface as errors

Model: `GoUefi/Model/VarFs.lean`.  A run of `writeVar` / `getVar` against an environment
`env : Nat → Call → Res` (the answer to the k-th call) yields the result and the trace; the
theorems quantify over EVERY environment, i.e. over every pattern of failing, short or otherwise
misbehaving filesystem calls.  `Impl.isFault`, `Impl.signedUpdate`, `Impl.signImage` and the
case analysis of the runs are in `GoUefi/Lemmas/VarFs.lean`; only the property theorems and their
non-vacuity examples live here.
-/
namespace GoUefi.C15
open GoUefi GoUefi.Impl

/-! ### writing -/

/-- For every environment whatsoever: if any call of a variable write misbehaved (an error
    return from open / write / close, or a write that was not complete), the write reports an
    error. -/
theorem C15_write_fault_is_error (dir : String) (name : List Char) (g : Guid) (attrs : Nat)
    (value : Bytes) (env : Nat → Call → Res) (res : Outcome Unit) (tr : List (Call × Res))
    (hrun : (writeVar dir name g attrs value).run env 0 = (res, tr))
    (hfault : ∃ e ∈ tr, isFault e = true) : res = .err := by
  rcases writeVar_run_cases dir name g attrs value env with h | ⟨r0, w, cl, hr0, _, _, _, h⟩
  · exact (Prod.mk.inj (h.symm.trans hrun)).1.symm
  · obtain ⟨rfl, rfl⟩ := Prod.mk.inj (h.symm.trans hrun)
    have hlen : (le32 attrs ++ value).length = 4 + value.length := by simp
    -- the fault is in one of the three entries; the open did not fail
    simp only [List.mem_cons, List.not_mem_nil, or_false, exists_eq_or_imp, exists_eq_left,
      isFault_openFile, isFault_write, isFault_close, hr0, false_or, hlen] at hfault
    exact writeVarFinish_ne_ok hfault

/-- Success means a clean run: the three calls, a complete write of attributes‖value, and neither
    the open nor the close reported an error. -/
theorem C15_write_success_means_clean (dir : String) (name : List Char) (g : Guid) (attrs : Nat)
    (value : Bytes) (env : Nat → Call → Res) (res : Outcome Unit) (tr : List (Call × Res))
    (hrun : (writeVar dir name g attrs value).run env 0 = (res, tr)) (hok : res = .ok ()) :
    ∃ r0 r2, tr = [(.openFile (varPath dir name g) (writeFlags attrs) 0o644, r0),
                   (.write (le32 attrs ++ value), .wrote (4 + value.length)),
                   (.close, r2)] ∧ r0 ≠ .fail ∧ r2 ≠ .fail := by
  subst hok
  rcases writeVar_run_cases dir name g attrs value env with h | ⟨r0, w, cl, hr0, _, _, _, h⟩
  · cases (Prod.mk.inj (h.symm.trans hrun)).1
  · obtain ⟨e1, rfl⟩ := Prod.mk.inj (h.symm.trans hrun)
    obtain ⟨rfl, hc⟩ := writeVarFinish_ok e1
    exact ⟨r0, cl, rfl, hr0, hc⟩

/-- "Every environment" subsumes "the k-th call fails, for every k": whichever of the three calls
    of the clean trace (k = 0 open, 1 write, 2 close) is answered with an error, the result is an
    error. -/
theorem C15_fault_patterns (dir : String) (name : List Char) (g : Guid) (attrs : Nat)
    (value : Bytes) (env : Nat → Call → Res) :
    ∀ k c, [Call.openFile (varPath dir name g) (writeFlags attrs) 0o644,
            Call.write (le32 attrs ++ value), Call.close][k]? = some c →
      env k c = .fail → ((writeVar dir name g attrs value).run env 0).1 = .err := by
  intro k c hk hfail
  by_cases h0 : env 0 (.openFile (varPath dir name g) (writeFlags attrs) 0o644) = .fail
  · rw [writeVar_run_fail dir name g attrs value env h0]
  · rw [writeVar_run_open dir name g attrs value env h0]
    apply writeVarFinish_ne_ok
    match k, hk with
    | 0, hk => cases hk; exact absurd hfail h0
    | 1, hk => cases hk; left; rw [hfail]; simp
    | 2, hk => cases hk; right; exact hfail

/-! ### reading -/

/-- For every environment and every decoder: if any call of a variable read misbehaved (an error
    return from open / stat / read / close, a stat without a size, a read that did not deliver
    exactly the bytes asked for), the read reports an error — and the decoder's verdict on whatever
    bytes were delivered is not consulted. -/
theorem C15_read_fault_is_error {α} (dir : String) (name : List Char) (g : Guid) (req : Nat)
    (dec : Bytes → Outcome α) (env : Nat → Call → Res) (res : Outcome (Nat × α))
    (tr : List (Call × Res))
    (hrun : (getVar dir name g req dec).run env 0 = (res, tr))
    (hfault : ∃ e ∈ tr, isFault e = true) : res = .err := by
  rcases getVar_run_cases dir name g req dec env with he | ⟨sz, ab, h0, h1, h2, hab⟩
  · rw [hrun] at he; exact he.1
  · obtain ⟨rfl, rfl⟩ := Prod.mk.inj
      ((getVar_run_full dir name g req dec env sz ab h0 h1 h2 hab).symm.trans hrun)
    -- the fault is in one of the five entries; the first three are clean
    simp only [List.mem_cons, List.not_mem_nil, or_false, exists_eq_or_imp, exists_eq_left,
      isFault_open, isFault_stat, h0, false_or] at hfault
    rcases hfault with hf | hf | hf
    · exact absurd rfl (hf sz)
    · exact absurd hab ((isFault_read 4 _).1 hf ab rfl)
    · exact getVarFinish_fault req dec hf

/-- Success returns the attributes and value that the two reads delivered: `ab` (4 bytes) and `vb`
    (file size − 4 bytes) are exactly what the environment handed over, the required attributes are
    a subset of `rd32 ab`, the decoder accepted `vb`, and no call reported an error. -/
theorem C15_read_success_value {α} (dir : String) (name : List Char) (g : Guid) (req : Nat)
    (dec : Bytes → Outcome α) (env : Nat → Call → Res) (a : Nat) (v : α) (tr : List (Call × Res))
    (hrun : (getVar dir name g req dec).run env 0 = (.ok (a, v), tr)) :
    ∃ r0 sz ab vb cl,
      tr = [(.open (varPath dir name g), r0), (.stat, .size sz), (.read 4, .data ab),
            (.read (sz - 4), .data vb), (.close, cl)] ∧
      r0 ≠ .fail ∧ cl ≠ .fail ∧ ab.length = 4 ∧ vb.length = sz - 4 ∧
      attrsSubset req (rd32 ab) = true ∧ a = rd32 ab ∧ dec vb = .ok v := by
  rcases getVar_run_cases dir name g req dec env with he | ⟨sz, ab, h0, h1, h2, hab⟩
  · rw [hrun] at he; cases he.1
  · obtain ⟨e1, rfl⟩ := Prod.mk.inj
      ((getVar_run_full dir name g req dec env sz ab h0 h1 h2 hab).symm.trans hrun)
    obtain ⟨vb, hv, hvl, hcl, hsub, ha, hdec⟩ := getVarFinish_ok req dec e1
    rw [hv]
    exact ⟨_, sz, ab, vb, _, rfl, h0, hcl, hab, hvl, hsub, ha, hdec⟩

/-! ### signing comes first -/

/-- A failed signer writes nothing: the update is an error with an empty trace (no filesystem
    call at all), whatever the environment; a successful signer hands its bytes to the write. -/
theorem C15_update_atomic (k : Bytes → Prog (Outcome Unit)) (env : Nat → Call → Res) :
    (signedUpdate none k).run env 0 = (.err, []) ∧
    ∀ b, (signedUpdate (some b) k).run env 0 = (k b).run env 0 :=
  ⟨rfl, fun _ => rfl⟩

/-- A failed signing leaves the image object without a new signature (and reports an error); a
    successful one appends exactly the produced signature. -/
theorem C15_sign_atomic (p : Parsed) :
    (signImage none p).2 = p ∧ (signImage none p).1 = .err ∧
    ∀ s, signImage (some s) p = (.ok (), p.appendSignature s) :=
  ⟨rfl, rfl, fun _ => rfl⟩

/-! ### non-vacuity: concrete environments -/

/-- an environment whose write is short by one byte: a fault in the trace, and an error -/
example : (writeVar "d" ['x'] Guid.zero 7 [1, 2]).run
      (fun _ c => match c with | .write b => .wrote (b.length - 1) | _ => .ok) 0 =
    (.err, [(.openFile (varPath "d" ['x'] Guid.zero) 0x41 0o644, .ok),
            (.write [7, 0, 0, 0, 1, 2], .wrote 5), (.close, .ok)]) ∧
    isFault (Call.write [7, 0, 0, 0, 1, 2], Res.wrote 5) = true := by decide +kernel
/-- only the close fails -/
example : ((writeVar "d" ['x'] Guid.zero 7 [1, 2]).run
      (fun k c => if k = 2 then .fail else fileEnv none k c) 0).1 = .err := by decide +kernel
/-- the healthy environment gives success (hypothesis of `C15_write_success_means_clean`) -/
example : ((writeVar "d" ['x'] Guid.zero 7 [1, 2]).run (fileEnv none) 0).1 = .ok () := by decide +kernel
/-- a read whose second read comes back one byte short, with a decoder that would accept -/
example : ((getVar "d" ['x'] Guid.zero 0 (fun b => Outcome.ok b)).run
      (fun k c => if k = 3 then .data [9] else fileEnv (some [7, 0, 0, 0, 1, 2]) k c) 0).1 = .err ∧
    isFault (Call.read 2, Res.data [9]) = true := by decide +kernel
/-- a healthy read succeeds (hypothesis of `C15_read_success_value`) -/
example : ((getVar "d" ['x'] Guid.zero 0 (fun b => Outcome.ok b)).run
      (fileEnv (some [7, 0, 0, 0, 1, 2])) 0).1 = .ok (7, [1, 2]) := by decide +kernel
/-- clean entries are not faults -/
example : isFault (Call.close, Res.ok) = false ∧ isFault (Call.read 1, Res.data [0]) = false ∧
    isFault (Call.stat, Res.size 3) = false ∧ isFault (Call.write [1], Res.wrote 1) = false := by decide +kernel
/-- a failed signer in front of a real write program -/
example : (signedUpdate none (fun b => writeVar "d" ['x'] Guid.zero 0x27 b)).run (fileEnv none) 0 = (.err, []) := rfl

end GoUefi.C15

#print axioms GoUefi.C15.C15_write_fault_is_error
#print axioms GoUefi.C15.C15_write_success_means_clean
#print axioms GoUefi.C15.C15_fault_patterns
#print axioms GoUefi.C15.C15_read_fault_is_error
#print axioms GoUefi.C15.C15_read_success_value
#print axioms GoUefi.C15.C15_update_atomic
#print axioms GoUefi.C15.C15_sign_atomic

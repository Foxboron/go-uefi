import GoUefi.Gen
import GoUefi.Properties.C06
import GoUefi.Properties.C10g
import GoUefi.Lemmas.GenVarSign
/-!
# C06 (generated tie) — `signature.SignEFIVariable` as the source has it

Translated by `tools/go2lean` from efi/signature/varsign.go: `SignEFIVariable` (with its name loop
`SignEFIVariable.loop1`) and `NewEFIVariableAuthentication2`.  What is not translated is a parameter:

* `X : signature.Externals` — `util.NewEFITime` (the clock: the field `util_NewEFITime` is the value it
  returns for this call), `pkcs7.SignPKCS7` and `pkcs7.ParseContentInfo` (functions of their arguments;
  `ParseContentInfo` also returns the advanced `*cryptobyte.String`);
* `m : efivar.Marshallable` — the interface value: `m.Marshal k b` is the content of the buffer after
  the call at the `k`-th syntactic call site of `SignEFIVariable` when the buffer held `b` before.
  `SignEFIVariable` calls it twice (site 0: into the buffer that is signed, site 1: behind the
  descriptor in the result).  Nothing is assumed about it: not that it appends, not that the two
  calls do the same.  Where a theorem needs that, it is a hypothesis;
* `key : CryptoSigner`, `cert : X509Cert` are only handed on to `SignPKCS7`;
* `[]byte(v.Name)` is `strBytes v.Name` (the UTF-8 bytes of the name; every statement below holds for
  any byte list in its place).

All theorems hold for every `X`, `m`, `v`, `key`, `cert`.  "nil" results of the Go function are the zero
values `nilAuth` and `[]` (the translator's convention: callers look at the error first).
-/
namespace GoUefi.C06
open GoUefi GoUefi.Gen

/-- what the translation returns for a `nil` `*EFIVariableAuthentication2` -/
def nilAuth : signature.EFIVariableAuthentication2 :=
  ⟨⟨0, 0, 0, 0, 0, 0, 0, 0, 0, 0, 0⟩, ⟨⟨0, 0, 0, []⟩, ⟨0, 0, 0, [0, 0, 0, 0, 0, 0, 0, 0]⟩, []⟩⟩

/-- the buffer that `SignEFIVariable` hands to `SignPKCS7`: every byte of the name followed by 0x00
    (no terminator) ‖ the GUID's fields, little-endian ‖ the attributes, little-endian ‖ the 16 bytes
    of the EFI_TIME that `NewEFITime` returned ‖ what the first `Marshal` call left in its (empty) buffer -/
def gSignedBuffer (X : signature.Externals) (v : efivar.Efivar) (m : efivar.Marshallable) : List UInt8 :=
  ((strBytes v.Name).flatMap fun b => [b, 0]) ++
  (encLE32 v.GUID.Data1 ++ encLE16 v.GUID.Data2 ++ encLE16 v.GUID.Data3 ++ v.GUID.Data4) ++
  encLE32 v.Attributes ++
  encLE_util_EFITime X.util_NewEFITime ++
  m.Marshal 0 []

/-- the descriptor that is returned when the signature `sg` was obtained -/
def gDescriptor (X : signature.Externals) (sg : List UInt8) : signature.EFIVariableAuthentication2 :=
  { Time := X.util_NewEFITime,
    AuthInfo :=
      { Header := { Length := 24 + UInt32.ofNat sg.length, Revision := 0x0200, CertType := 0x0EF1, Certificate := [] },
        CertType := ⟨0x4aafd29d, 0x68df, 0x49ee, [0x8a, 0xa9, 0x34, 0x7d, 0x37, 0x56, 0x65, 0xa7]⟩,
        CertData := sg } }

/-- its encoding: EFI_TIME ‖ dwLength ‖ wRevision ‖ wCertificateType ‖ EFI_CERT_TYPE_PKCS7_GUID ‖ signature -/
def gDescriptorBytes (X : signature.Externals) (sg : List UInt8) : List UInt8 :=
  encLE_util_EFITime X.util_NewEFITime ++ encLE32 (24 + UInt32.ofNat sg.length) ++ encLE16 0x0200 ++ encLE16 0x0EF1 ++
  [0x9d, 0xd2, 0xaf, 0x4a, 0xdf, 0x68, 0xee, 0x49, 0x8a, 0xa9, 0x34, 0x7d, 0x37, 0x56, 0x65, 0xa7] ++ sg

/-- what happens after `SignPKCS7` returned `der` without error -/
def gFinish (X : signature.Externals) (m : efivar.Marshallable) (der : List UInt8) :
    signature.EFIVariableAuthentication2 × List UInt8 × GoErr :=
  match X.pkcs7_ParseContentInfo der with
  | (_, _, _, some e) => (nilAuth, [], some e)
  | (_, _, sg, none) => (gDescriptor X sg, m.Marshal 1 (gDescriptorBytes X sg), none)

/-- `dwLength` as the code computes it, in `uint32` arithmetic -/
theorem dwLength_toNat (n : Nat) : (24 + UInt32.ofNat n).toNat = (24 + n) % 2^32 :=
  (congrArg UInt32.toNat (UInt32.ofNat_add 24 n).symm).trans UInt32.toNat_ofNat'

theorem C06g_descriptor_marshal (X : signature.Externals) (sg b : List UInt8) :
    (gDescriptor X sg).Marshal b = b ++ gDescriptorBytes X sg := by
  simp only [signature.EFIVariableAuthentication2.Marshal, signature.WriteEFIVariableAuthencation2,
    signature.WriteWinCertificateUEFIGUID, signature.WriteWinCertificate, gDescriptor, gDescriptorBytes,
    decBytes, List.append_assoc, List.append_nil]
  rfl

/-- the translated function in closed form (everything below is read off from this) -/
theorem C06g_closed_form (X : signature.Externals) (v : efivar.Efivar) (m : efivar.Marshallable)
    (key : CryptoSigner) (cert : X509Cert) :
    signature.SignEFIVariable X v m key cert =
      let s := X.pkcs7_SignPKCS7 key cert pkcs7.OIDData (gSignedBuffer X v m)
      let c := X.pkcs7_ParseContentInfo s.1
      if s.2.isSome then (nilAuth, [], s.2)
      else if c.2.2.2.isSome then (nilAuth, [], c.2.2.2)
      else (gDescriptor X c.2.2.1, m.Marshal 1 ((gDescriptor X c.2.2.1).Marshal []), none) := by
  -- the buffer as the code builds it, folded first: `rfl` would otherwise unfold `gSignedBuffer` against each occurrence
  have hb : (strBytes v.Name).flatMap (fun b => [b, 0]) ++ encLE_util_EFIGUID v.GUID ++ encLE32 v.Attributes ++
      encLE_util_EFITime (signature.NewEFIVariableAuthentication2 X).Time ++ m.Marshal 0 [] = gSignedBuffer X v m := rfl
  unfold signature.SignEFIVariable
  simp only [GenVarSign.loop1_eq, List.nil_append, decBytes, hb]
  rfl

/-- **The signed bytes.** `SignEFIVariable` is: call `SignPKCS7` with the key, the certificate,
    `pkcs7.OIDData` and exactly `gSignedBuffer X v m`; an error of it is returned, otherwise go on with
    the DER it returned.  (No assumption on `SignPKCS7`: the equation says which bytes it is given,
    whether or not it succeeds.) -/
theorem C06g_signed_buffer (X : signature.Externals) (v : efivar.Efivar) (m : efivar.Marshallable)
    (key : CryptoSigner) (cert : X509Cert) :
    signature.SignEFIVariable X v m key cert =
      match X.pkcs7_SignPKCS7 key cert pkcs7.OIDData (gSignedBuffer X v m) with
      | (_, some e) => (nilAuth, [], some e)
      | (der, none) => gFinish X m der := by
  rw [C06g_closed_form]
  rcases hs : X.pkcs7_SignPKCS7 key cert pkcs7.OIDData (gSignedBuffer X v m) with ⟨der, _ | e⟩
  · simp only [Option.isSome_none, Bool.false_eq_true, if_false, gFinish]
    rcases hp : X.pkcs7_ParseContentInfo der with ⟨cs, oid, sg, _ | e⟩
    · simp only [Option.isSome_none, Bool.false_eq_true, if_false, C06g_descriptor_marshal, List.nil_append]
    · simp only [Option.isSome_some, if_true]
  · simp only [Option.isSome_some, if_true]

/-- the layout of the signed buffer: 2·|name| bytes of name, then 16 + 4 + 16 bytes of GUID, attributes
    and timestamp (the GUID's last field has 8 bytes in Go: `[8]uint8`), then the payload of call 0 -/
theorem C06g_signed_buffer_layout (X : signature.Externals) (v : efivar.Efivar) (m : efivar.Marshallable)
    (h8 : v.GUID.Data4.length = 8) :
    ∃ nm gd at' tm, gSignedBuffer X v m = nm ++ gd ++ at' ++ tm ++ m.Marshal 0 [] ∧
      nm.length = 2 * (strBytes v.Name).length ∧ gd = encLE_util_EFIGUID v.GUID ∧ gd.length = 16 ∧
      at'.length = 4 ∧ tm.length = 16 ∧
      (gSignedBuffer X v m).length = 2 * (strBytes v.Name).length + 36 + (m.Marshal 0 []).length := by
  have hg : (encLE_util_EFIGUID v.GUID).length = 16 := by rw [GenCodec.encLE_guid_length, h8]
  have hn := Impl.name_flat_length (strBytes v.Name)
  have ht := GenAuthDesc.encLE_time_length X.util_NewEFITime
  have ha : (encLE32 v.Attributes).length = 4 := rfl
  refine ⟨_, encLE_util_EFIGUID v.GUID, encLE32 v.Attributes, _, rfl, hn, rfl, hg, ha, ht, ?_⟩
  show (_ ++ encLE_util_EFIGUID v.GUID ++ encLE32 v.Attributes ++ _ ++ _).length = _
  rw [List.length_append, List.length_append, List.length_append, List.length_append, hn, hg, ha, ht]

/-- **Errors.** An error of `SignPKCS7`, or of `ParseContentInfo` on what `SignPKCS7` returned, is
    returned as it is, together with no descriptor and no value. -/
theorem C06g_error (X : signature.Externals) (v : efivar.Efivar) (m : efivar.Marshallable)
    (key : CryptoSigner) (cert : X509Cert) :
    (∀ der e, X.pkcs7_SignPKCS7 key cert pkcs7.OIDData (gSignedBuffer X v m) = (der, some e) →
      signature.SignEFIVariable X v m key cert = (nilAuth, [], some e)) ∧
    (∀ der cs oid sg e, X.pkcs7_SignPKCS7 key cert pkcs7.OIDData (gSignedBuffer X v m) = (der, none) →
      X.pkcs7_ParseContentInfo der = (cs, oid, sg, some e) →
      signature.SignEFIVariable X v m key cert = (nilAuth, [], some e)) := by
  constructor
  · intro der e hs
    rw [C06g_signed_buffer, hs]
  · intro der cs oid sg e hs hp
    rw [C06g_signed_buffer, hs]
    simp only [gFinish, hp]

/-- there is no other error: the call succeeds exactly when both external calls do -/
theorem C06g_error_iff (X : signature.Externals) (v : efivar.Efivar) (m : efivar.Marshallable)
    (key : CryptoSigner) (cert : X509Cert) :
    (signature.SignEFIVariable X v m key cert).2.2 = none ↔
      ∃ der cs oid sg, X.pkcs7_SignPKCS7 key cert pkcs7.OIDData (gSignedBuffer X v m) = (der, none) ∧
        X.pkcs7_ParseContentInfo der = (cs, oid, sg, none) := by
  rw [C06g_signed_buffer]
  rcases hs : X.pkcs7_SignPKCS7 key cert pkcs7.OIDData (gSignedBuffer X v m) with ⟨der, _ | e⟩
  · rcases hp : X.pkcs7_ParseContentInfo der with ⟨cs, oid, sg, _ | e⟩
    · simp only [gFinish, hp, true_iff]
      exact ⟨der, cs, oid, sg, rfl, hp⟩
    · simp only [gFinish, hp]
      refine ⟨nofun, ?_⟩
      rintro ⟨_, _, _, _, h1, h2⟩
      cases h1
      cases hp.symm.trans h2
  · refine ⟨nofun, ?_⟩
    rintro ⟨_, _, _, _, h1, _⟩
    cases h1

/-- **The result.** When `SignPKCS7` returned `der` and `ParseContentInfo der` the bare SignedData `sg`:
    the descriptor has the timestamp that went into the signed buffer, `dwLength = 24 + |sg|` (in
    `uint32` arithmetic), revision 0x0200, type 0x0EF1, EFI_CERT_TYPE_PKCS7_GUID and `sg` as certificate
    data; the returned value holds what the second `Marshal` call made of a buffer holding the encoded
    descriptor — EFI_TIME ‖ dwLength ‖ 0x0200 ‖ 0x0EF1 ‖ GUID ‖ sg — and nothing else. -/
theorem C06g_result (X : signature.Externals) (v : efivar.Efivar) (m : efivar.Marshallable)
    (key : CryptoSigner) (cert : X509Cert) (der cs sg : List UInt8) (oid : List Int)
    (hs : X.pkcs7_SignPKCS7 key cert pkcs7.OIDData (gSignedBuffer X v m) = (der, none))
    (hp : X.pkcs7_ParseContentInfo der = (cs, oid, sg, none)) :
    signature.SignEFIVariable X v m key cert =
      (gDescriptor X sg, m.Marshal 1 (gDescriptorBytes X sg), none) ∧
    (gDescriptor X sg).Marshal [] = gDescriptorBytes X sg ∧
    (gDescriptor X sg).AuthInfo.CertType = signature.EFI_CERT_TYPE_PKCS7_GUID ∧
    (gDescriptorBytes X sg).length = 40 + sg.length := by
  refine ⟨?_, ?_, rfl, ?_⟩
  · rw [C06g_signed_buffer, hs]
    simp only [gFinish, hp]
  · rw [C06g_descriptor_marshal, List.nil_append]
  · unfold gDescriptorBytes
    rw [List.length_append, List.length_append, List.length_append, List.length_append, List.length_append,
      GenAuthDesc.encLE_time_length]
    rfl

/-- … and when the second `Marshal` call appends `p1` to the buffer it is given, the returned value is
    the encoded descriptor followed by `p1`. -/
theorem C06g_result_bytes (X : signature.Externals) (v : efivar.Efivar) (m : efivar.Marshallable)
    (key : CryptoSigner) (cert : X509Cert) (der cs sg p1 : List UInt8) (oid : List Int)
    (hs : X.pkcs7_SignPKCS7 key cert pkcs7.OIDData (gSignedBuffer X v m) = (der, none))
    (hp : X.pkcs7_ParseContentInfo der = (cs, oid, sg, none))
    (hm1 : m.Marshal 1 (gDescriptorBytes X sg) = gDescriptorBytes X sg ++ p1) :
    signature.SignEFIVariable X v m key cert =
      (gDescriptor X sg,
       encLE_util_EFITime X.util_NewEFITime ++ encLE32 (24 + UInt32.ofNat sg.length) ++ encLE16 0x0200 ++ encLE16 0x0EF1 ++
         [0x9d, 0xd2, 0xaf, 0x4a, 0xdf, 0x68, 0xee, 0x49, 0x8a, 0xa9, 0x34, 0x7d, 0x37, 0x56, 0x65, 0xa7] ++ sg ++ p1,
       none) := by
  rw [(C06g_result X v m key cert der cs sg oid hs hp).1, hm1]
  rfl

/-- **Decoding.** With no wrap-around in `dwLength` (24 + |sg| < 2^32) the library's own reader,
    applied to the returned value, gives back exactly the returned descriptor and leaves what the second
    `Marshal` call appended. -/
theorem C06g_decode (X : signature.Externals) (v : efivar.Efivar) (m : efivar.Marshallable)
    (key : CryptoSigner) (cert : X509Cert) (der cs sg p1 : List UInt8) (oid : List Int)
    (hs : X.pkcs7_SignPKCS7 key cert pkcs7.OIDData (gSignedBuffer X v m) = (der, none))
    (hp : X.pkcs7_ParseContentInfo der = (cs, oid, sg, none))
    (hm1 : m.Marshal 1 (gDescriptorBytes X sg) = gDescriptorBytes X sg ++ p1)
    (hlen : 24 + sg.length < 2^32) :
    signature.ReadEFIVariableAuthencation2 (signature.SignEFIVariable X v m key cert).2.1 =
      (p1, (signature.SignEFIVariable X v m key cert).1, none) := by
  obtain ⟨hr, hd, _⟩ := C06g_result X v m key cert der cs sg oid hs hp
  rw [hr, hm1]
  simp only
  rw [← hd]
  apply GenAuthDesc.read_marshal
  exact ⟨GenAuthDesc.encLE_time_length _, rfl, rfl, (dwLength_toNat _).trans (Nat.mod_eq_of_lt hlen),
    UInt32.toNat_lt _, rfl, rfl⟩

/-! ### refinement: the hand-written model of C06 -/

/-- The translated signed buffer is the model's `Impl.signedBuffer` of the name bytes, the GUID's wire
    form (`C10.gwG`), the attributes as a number, the encoded timestamp and the payload of the first
    `Marshal` call. -/
theorem C06g_refines_buffer (X : signature.Externals) (v : efivar.Efivar) (m : efivar.Marshallable) :
    gSignedBuffer X v m =
      Impl.signedBuffer (strBytes v.Name) (C10.gwG v.GUID) v.Attributes.toNat
        (C10.timeWire X.util_NewEFITime) (m.Marshal 0 []) := rfl

/-- **Refinement.** Let the payload be deterministic (call 0 leaves `payload` in the empty buffer, call 1
    appends `payload`), let the clock value encode to the model's `efiTime t`, and let the two external
    functions agree with the model's `signPKCS7` (for these certificate fields, signing-time text, digest
    and RSA signature) on the signed buffer `B`, and with `unwrapContentInfo` on what that returns.  Then
    the translated function returns what `Impl.varSign` — the model that the C06 theorems are about —
    returns (`r`): the same bytes, or an error where the model has no output.  (`r` is a parameter so that
    the statement can be applied to closed inputs without evaluating the model during elaboration.) -/
theorem C06g_refines (X : signature.Externals) (v : efivar.Efivar) (m : efivar.Marshallable)
    (key : CryptoSigner) (cert : X509Cert) (t : Impl.Civil) (payload certRaw issuerRaw : Bytes) (serial : Nat)
    (timeText md sig B : Bytes)
    (hm0 : m.Marshal 0 [] = payload) (hm1 : ∀ b, m.Marshal 1 b = b ++ payload)
    (ht : encLE_util_EFITime X.util_NewEFITime = Impl.efiTime t)
    (hB : B = Impl.signedBuffer (strBytes v.Name) (C10.gwG v.GUID) v.Attributes.toNat (Impl.efiTime t) payload)
    (hsign : match Impl.signPKCS7 Impl.oidData B certRaw issuerRaw serial timeText md sig with
      | some der => X.pkcs7_SignPKCS7 key cert pkcs7.OIDData B = (der, none)
      | none => (X.pkcs7_SignPKCS7 key cert pkcs7.OIDData B).2 ≠ none)
    (hparse : ∀ der, Impl.signPKCS7 Impl.oidData B certRaw issuerRaw serial timeText md sig = some der →
      match Impl.unwrapContentInfo der with
      | some sd => ∃ cs oid, X.pkcs7_ParseContentInfo der = (cs, oid, sd, none)
      | none => (X.pkcs7_ParseContentInfo der).2.2.2 ≠ none)
    (r : Option Bytes)
    (hr : Impl.varSign (strBytes v.Name) (C10.gwG v.GUID) v.Attributes.toNat t payload certRaw issuerRaw serial
        timeText md sig = r) :
    match (generalizing := false) r with
    | some out => ∃ sd, signature.SignEFIVariable X v m key cert = (gDescriptor X sd, out, none)
    | none => (signature.SignEFIVariable X v m key cert).2.2 ≠ none := by
  have hb : gSignedBuffer X v m = B := by
    rw [C06g_refines_buffer, hm0, hB, C10.timeWire, ht]
  subst hr
  unfold Impl.varSign
  rw [← hB, C06g_signed_buffer, hb]
  -- the two external calls, each against the model's function
  cases h1 : Impl.signPKCS7 Impl.oidData B certRaw issuerRaw serial timeText md sig with
  | none =>
    rw [h1] at hsign
    rcases hs : X.pkcs7_SignPKCS7 key cert pkcs7.OIDData B with ⟨der, _ | e⟩
    · exact (hsign (congrArg (·.2) hs)).elim
    · exact nofun
  | some der =>
    rw [h1] at hsign
    have hP := hparse der h1
    simp only [hsign, gFinish]
    cases h2 : Impl.unwrapContentInfo der with
    | none =>
      rw [h2] at hP
      rcases hp : X.pkcs7_ParseContentInfo der with ⟨cs, oid, sg, _ | e⟩
      · exact (hP (congrArg (·.2.2.2) hp)).elim
      · exact nofun
    | some sd =>
      rw [h2] at hP
      obtain ⟨cs, oid, hP⟩ := hP
      refine ⟨sd, ?_⟩
      rw [hP]
      simp only [hm1, gDescriptorBytes, ht, encLE32_eq, dwLength_toNat, Impl.writeWinCert, Impl.winCertRevision,
        Impl.winCertTypeEfiGuid, C06_guid, List.append_nil, List.append_assoc]
      rfl

/-! ### non-vacuity: concrete externals and a concrete payload object -/

/-- toy externals: `SignPKCS7` fails on an empty buffer and otherwise wraps the reversed buffer,
    `ParseContentInfo` takes the wrapper off and fails on anything else -/
def exX : signature.Externals :=
  { util_NewEFITime := ⟨2026, 9, 29, 20, 30, 0, 0, 0, 0, 0, 0⟩,
    pkcs7_SignPKCS7 := fun _ _ _ buf => if buf = [] then ([], some "no content") else (0x30 :: buf.reverse, none),
    pkcs7_ParseContentInfo := fun der =>
      match der with
      | 0x30 :: body => ([], [1, 2, 840, 113549, 1, 7, 2], body, none)
      | _ => (der, [], [], some "no contentinfo") }

/-- a payload object that marshals the same three bytes at both call sites -/
def exM : efivar.Marshallable := { Bytes := fun _ => [7, 8, 9], Marshal := fun _ b => b ++ [7, 8, 9] }
/-- a payload object that is drained by its first `Marshal` call (a reader) -/
def exDrained : efivar.Marshallable :=
  { Bytes := fun _ => [7, 8, 9], Marshal := fun k b => if k = 0 then b ++ [7, 8, 9] else b }

def exV : efivar.Efivar :=
  ⟨"db", ⟨0xd719b2cb, 0x3d3a, 0x4596, [0xa3, 0xbc, 0xda, 0xd0, 0x0e, 0x67, 0x65, 0x6f]⟩, 0x27⟩

example : gSignedBuffer exX exV exM =
    [0x64, 0, 0x62, 0] ++
    [0xcb, 0xb2, 0x19, 0xd7, 0x3a, 0x3d, 0x96, 0x45, 0xa3, 0xbc, 0xda, 0xd0, 0x0e, 0x67, 0x65, 0x6f] ++
    [0x27, 0, 0, 0] ++ [0xea, 0x07, 9, 29, 20, 30, 0, 0, 0, 0, 0, 0, 0, 0, 0, 0] ++ [7, 8, 9] := by
  decide +kernel
/-- the hypotheses of `C06g_result`, `C06g_result_bytes` and `C06g_decode` hold for it … -/
example : exX.pkcs7_SignPKCS7 ⟨1⟩ ⟨[], [], [], 0⟩ pkcs7.OIDData (gSignedBuffer exX exV exM) =
    (0x30 :: (gSignedBuffer exX exV exM).reverse, none) := by decide +kernel
example : exX.pkcs7_ParseContentInfo (0x30 :: (gSignedBuffer exX exV exM).reverse) =
    ([], [1, 2, 840, 113549, 1, 7, 2], (gSignedBuffer exX exV exM).reverse, none) := by decide +kernel
example (b : List UInt8) : exM.Marshal 1 b = b ++ [7, 8, 9] := rfl
example : 24 + (gSignedBuffer exX exV exM).reverse.length < 2^32 := by decide +kernel
/-- … and the translated function, evaluated, returns the layout of `C06g_result_bytes` … -/
example : (signature.SignEFIVariable exX exV exM ⟨1⟩ ⟨[], [], [], 0⟩).2.1 =
    [0xea, 0x07, 9, 29, 20, 30, 0, 0, 0, 0, 0, 0, 0, 0, 0, 0] ++ [24 + 43, 0, 0, 0] ++ [0x00, 0x02] ++ [0xf1, 0x0e] ++
    [0x9d, 0xd2, 0xaf, 0x4a, 0xdf, 0x68, 0xee, 0x49, 0x8a, 0xa9, 0x34, 0x7d, 0x37, 0x56, 0x65, 0xa7] ++
    (gSignedBuffer exX exV exM).reverse ++ [7, 8, 9] := by decide +kernel
example : (signature.ReadEFIVariableAuthencation2 (signature.SignEFIVariable exX exV exM ⟨1⟩ ⟨[], [], [], 0⟩).2.1).1 =
    [7, 8, 9] := by decide +kernel
/-- … while for the drained payload object the signature covers a payload that the result does not
    carry (why the theorems keep the two `Marshal` calls apart) -/
example : gSignedBuffer exX exV exDrained = gSignedBuffer exX exV exM ∧
    (signature.SignEFIVariable exX exV exDrained ⟨1⟩ ⟨[], [], [], 0⟩).2.1 =
      gDescriptorBytes exX (gSignedBuffer exX exV exM).reverse := by decide +kernel
/-- what `C06g_signed_buffer` says about a name outside ASCII: the bytes of its UTF-8 encoding, each
    followed by 0x00 — for "é" c3 00 a9 00, where UTF-16LE (what the firmware hashes) is e9 00 -/
example : (gSignedBuffer exX { exV with Name := "é" } exM).take 4 = [0xc3, 0, 0xa9, 0] := by decide +kernel
/-- the error cases of `C06g_error` are reachable -/
example : signature.SignEFIVariable { exX with pkcs7_SignPKCS7 := fun _ _ _ _ => ([], some "no key") } exV exM ⟨1⟩
    ⟨[], [], [], 0⟩ = (nilAuth, [], some "no key") := by decide +kernel
example : signature.SignEFIVariable { exX with pkcs7_SignPKCS7 := fun _ _ _ _ => ([1], none) } exV exM ⟨1⟩
    ⟨[], [], [], 0⟩ = (nilAuth, [], some "no contentinfo") := by decide +kernel
/-- the hypothesis `ht` of `C06g_refines` is satisfiable: the model's timestamp of the same civil time -/
example : encLE_util_EFITime exX.util_NewEFITime = Impl.efiTime ⟨2026, 9, 29, 20, 30, 0⟩ := by decide +kernel
/-- externals that behave as the model does, for given certificate fields, signing-time text, digest
    and RSA signature: every hypothesis of `C06g_refines` about `X` holds for them by construction -/
def modelX (tm : util.EFITime) (certRaw issuerRaw : Bytes) (serial : Nat) (timeText md sig : Bytes) :
    signature.Externals :=
  { util_NewEFITime := tm,
    pkcs7_SignPKCS7 := fun _ _ _ buf =>
      match Impl.signPKCS7 Impl.oidData buf certRaw issuerRaw serial timeText md sig with
      | some der => (der, none)
      | none => ([], some "panic"),
    pkcs7_ParseContentInfo := fun der =>
      match Impl.unwrapContentInfo der with
      | some sd => ([], [], sd, none)
      | none => (der, [], [], some "no contentinfo") }

/-- the payload object of the model's sample: 76 bytes 0x5a at both call sites -/
def exM76 : efivar.Marshallable :=
  { Bytes := fun _ => List.replicate 76 0x5a, Marshal := fun _ b => b ++ List.replicate 76 0x5a }

/-- the sample inputs of `C06.lean` -/
def smp : Impl.VarSignInputs := Impl.VarSignInputs.sample

/-- the model's externals for the sample: its certificate fields, and the clock at the sample's time -/
def smpX : signature.Externals :=
  modelX exX.util_NewEFITime smp.certRaw smp.issuerRaw smp.serial smp.timeText smp.md smp.sig

/-- `C06g_refines` applied to the sample inputs of `C06.lean` (variable "db", 76-byte payload, the toy
    certificate): all its hypotheses hold, so the translated function returns the model's output —
    which `VarSignInputs.sample_run` evaluates -/
example : ∃ sd, signature.SignEFIVariable smpX exV exM76 ⟨1⟩ ⟨[], [], [], 0⟩ =
    (gDescriptor smpX sd, Impl.efiTime smp.t ++ [0xbd, 0, 0, 0] ++ [0x00, 0x02] ++ [0xf1, 0x0e] ++ Impl.guidPkcs7 ++
      smp.sd ++ smp.payload, none) := by
  have e1 : strBytes exV.Name = smp.name := by decide +kernel
  have e2 : C10.gwG exV.GUID = smp.guid := by decide +kernel
  have e3 : exV.Attributes.toNat = smp.attrs := by decide +kernel
  have hv : Impl.varSign smp.name smp.guid smp.attrs smp.t smp.payload
      smp.certRaw smp.issuerRaw smp.serial smp.timeText smp.md smp.sig =
      some (Impl.efiTime smp.t ++ [0xbd, 0, 0, 0] ++ [0x00, 0x02] ++ [0xf1, 0x0e] ++ Impl.guidPkcs7 ++
        smp.sd ++ smp.payload) := Impl.VarSignInputs.sample_run
  have hm0 : exM76.Marshal 0 [] = smp.payload := by decide +kernel
  have hm1 : ∀ b, exM76.Marshal 1 b = b ++ smp.payload := fun _ => rfl
  have ht : encLE_util_EFITime smpX.util_NewEFITime = Impl.efiTime smp.t := by decide +kernel
  have hB : smp.buf = Impl.signedBuffer (strBytes exV.Name) (C10.gwG exV.GUID) exV.Attributes.toNat
      (Impl.efiTime smp.t) smp.payload := by rw [e1, e2, e3]; rfl
  rw [← e1, ← e2, ← e3] at hv
  refine C06g_refines smpX exV exM76 ⟨1⟩ ⟨[], [], [], 0⟩ smp.t smp.payload smp.certRaw smp.issuerRaw smp.serial
    smp.timeText smp.md smp.sig smp.buf hm0 hm1 ht hB ?_ ?_ (some _) hv
  -- the externals answer as the model does, whatever it answers
  · simp only [smpX, modelX]
    cases Impl.signPKCS7 Impl.oidData smp.buf smp.certRaw smp.issuerRaw smp.serial smp.timeText smp.md smp.sig
    · exact nofun
    · rfl
  · intro der _
    simp only [smpX, modelX]
    cases Impl.unwrapContentInfo der
    · exact nofun
    · exact ⟨_, _, rfl⟩

example : Gen.skipped.all (fun p => p.1 != "signature.SignEFIVariable" && p.1 != "signature.NewEFIVariableAuthentication2") = true := by
  decide +kernel

end GoUefi.C06

#print axioms GoUefi.C06.C06g_descriptor_marshal
#print axioms GoUefi.C06.C06g_closed_form
#print axioms GoUefi.C06.C06g_signed_buffer
#print axioms GoUefi.C06.C06g_signed_buffer_layout
#print axioms GoUefi.C06.C06g_error
#print axioms GoUefi.C06.C06g_error_iff
#print axioms GoUefi.C06.C06g_result
#print axioms GoUefi.C06.C06g_result_bytes
#print axioms GoUefi.C06.C06g_decode
#print axioms GoUefi.C06.C06g_refines_buffer
#print axioms GoUefi.C06.C06g_refines

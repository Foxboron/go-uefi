import GoUefi.Facts
import GoUefi.Model.AuthDesc
/-! C10 — regenerated tie: WIN_CERTIFICATE constants of the current source -/
namespace GoUefi.C10
open GoUefi

theorem C10_extracted_constants :
    Facts.constIs "efi/signature.SizeofWINCertificate" 8 = true ∧
    Facts.constIs "efi/signature.SizeofWinCertificateUEFIGUID" 24 = true ∧
    Facts.constIs "efi/signature.WIN_CERTIFICATE_REVISION" Impl.winCertRevision = true ∧
    Facts.constIs "efi/signature.WIN_CERT_TYPE_EFI_GUID" Impl.winCertTypeEfiGuid = true ∧
    Facts.constIs "efi/signature.WIN_CERT_TYPE_PKCS_SIGNED_DATA" Impl.winCertTypePkcs = true ∧
    Facts.constIs "efi/util.SizeofEFITime" 16 = true := by
  decide +kernel

end GoUefi.C10

import GoUefi.Extracted
/-! C01 — regenerated tie: the integer offsets `authenticode.Parse` adds in the current source -/
namespace GoUefi.C01
open GoUefi

def parseOffsetIs (name : String) (v : Nat) : Bool :=
  match Extracted.parseOffsets.find? (·.1 == name) with
  | none => true
  | some x => x.2 == v

/-- checksum at optional-header offset 64 and 4 bytes long; data directory 4 at 128 (PE32) / 144
    (PE32+) and 8 bytes long; the optional header starts 4 + 20 bytes after e_lfanew — the constants
    of `Spec.PE.Layout.ck/.dd` and `Impl.ddOffset` -/
theorem C01_extracted_offsets :
    parseOffsetIs "cksumStart" 64 = true ∧ parseOffsetIs "cksumEnd" 4 = true ∧
    parseOffsetIs "dd4start" 128 = true ∧ parseOffsetIs "dd4start'" 144 = true ∧
    parseOffsetIs "dd4end" 8 = true ∧ parseOffsetIs "offset" 4 = true := by
  decide +kernel

end GoUefi.C01

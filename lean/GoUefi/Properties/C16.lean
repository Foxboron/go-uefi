import GoUefi.Lemmas.Pkcs7Verify
/-!
# C16 — re-encoding the parsed signed attributes reproduces the signed bytes for canonical producers

Model: `GoUefi/Model/Pkcs7.lean` (`Attrs.marshal` = Go `Attributes.Marshal`, `attrLoop` = the loop of
`parseAttributes`).  `Impl.Canon a body` (`GoUefi/Lemmas/Pkcs7Verify.lean`) says that `body` is
exactly the layout `Marshal` writes for the values `a`: the encodings of contentType, [signingTime],
messageDigest and the other attributes in DER SET OF order (sorted by `bytes.Compare`, F19), all
OIDs valid — i.e. `attrsBody a = some body`.
It is stated from the parsed side (no OID round trip is needed): the producer is canonical when
its attribute body coincides with the re-encoding of what was parsed from it.

Verification itself never re-encodes parsed attributes (F2): it uses `raw`
(`C04_attrs_as_transmitted`) and, of the parsed values, `md` alone
(`C16_verify_independent_of_order`), so producers with another attribute order verify as well
(`blobReordered` among the examples).
-/
namespace GoUefi.C16
open GoUefi GoUefi.Impl

/-- `Attributes.Marshal()` of the values parsed from a canonical attribute body reproduces exactly
    the bytes that were signed (the SET re-tagging of the transmitted body). -/
theorem C16_reencode {fuel : Nat} {body : Bytes} {a : Attrs}
    (_h : attrLoop fuel body { raw := some (Der.addASN1 Der.tSET body) } = some a)
    (hc : Canon a body) : a.marshal = .ok (Der.addASN1 Der.tSET body) :=
  marshal_of_canon hc

/-- The same, with `Canon` unfolded and `raw` made explicit: re-encoding and the transmitted bytes
    coincide, so `Verify` would check the same bytes either way. -/
theorem C16_marshal_eq_raw_of_canonical_body {fuel : Nat} {body : Bytes} {a : Attrs}
    (h : attrLoop fuel body { raw := some (Der.addASN1 Der.tSET body) } = some a)
    (hc : attrsBody a = some body) : ∃ r, a.raw = some r ∧ a.marshal = .ok r :=
  ⟨Der.addASN1 Der.tSET body, by rw [attrLoop_raw h], marshal_of_canon hc⟩

/-- Canonical bodies are exactly those for which re-encoding reproduces the signed bytes: for the
    values parsed from `body`, `Canon` holds iff `Marshal` returns `raw`.  (So verifying over a
    re-encoding — the behaviour before fix F2 — works for canonical producers and only for them.) -/
theorem C16_canonical_iff_marshal_eq_raw {fuel : Nat} {body : Bytes} {a : Attrs}
    (h : attrLoop fuel body { raw := some (Der.addASN1 Der.tSET body) } = some a) :
    Canon a body ↔ ∃ r, a.raw = some r ∧ a.marshal = .ok r :=
  canon_iff_marshal_eq_raw (by rw [attrLoop_raw h])

/-- For every signer of a parsed blob: `raw` is the re-tagged transmitted `[0]` element, it was
    obtained by the attribute loop from that element's body, and when that body is canonical,
    `Marshal` returns `raw`. -/
theorem C16_parsed_reencode {ok : Bytes → Bool} {b : Bytes} {p : P7} (h : parseP7 ok b = some p)
    {s : Signer} (hs : s ∈ p.signers) {a : Attrs} (ha : s.attrs = some a) :
    ∃ body, a.raw = some (Der.addASN1 Der.tSET body) ∧ Der.Sub (Der.addASN1 Der.tCtx0 body) b ∧
      attrLoop body.length body { raw := some (Der.addASN1 Der.tSET body) } = some a ∧
      (Canon a body → a.marshal = .ok (Der.addASN1 Der.tSET body)) := by
  obtain ⟨body, h1, h2, h3⟩ := parseP7_attrs h hs ha
  exact ⟨body, h1, h2, h3, marshal_of_canon⟩

/-- The verdict on a parsed signer depends on its attributes only through `raw` and `md`: any
    signer `s'` with the same signature whose attributes agree with those of `s` on `raw` and `md`
    gets the same verdict, whatever its contentType, time and other attributes — the values a
    re-encoding would be built from are not looked at. -/
theorem C16_verify_independent_of_order {C : Crypto} {ok : Bytes → Bool} {b : Bytes} {p : P7}
    {c : Cert} {content : Bytes} (h : parseP7 ok b = some p) {s : Signer} (hs : s ∈ p.signers)
    {a : Attrs} (ha : s.attrs = some a) {s' : Signer} {a' : Attrs} (ha' : s'.attrs = some a')
    (hraw : a'.raw = a.raw) (hmd : a'.md = a.md) (hsig : s'.sig = s.sig) :
    s'.verify C c content = s.verify C c content := by
  obtain ⟨body, h1, _⟩ := parseP7_attrs h hs ha
  exact Signer.verify_congr ha ha' h1 (hraw.trans h1) hmd hsig

/-- The same for arbitrary (not necessarily parsed) signers whose attributes carry `raw`. -/
theorem C16_verify_depends_on_raw_md {C : Crypto} {c : Cert} {content : Bytes} {s s' : Signer}
    {a a' : Attrs} {r : Bytes} (ha : s.attrs = some a) (ha' : s'.attrs = some a')
    (hr : a.raw = some r) (hr' : a'.raw = some r) (hmd : a'.md = a.md) (hsig : s'.sig = s.sig) :
    s'.verify C c content = s.verify C c content :=
  Signer.verify_congr ha ha' hr hr' hmd hsig

/-- A certificate that no signer names is rejected with a negative answer (not an error). -/
theorem C16_wrong_cert_rejected {C : Crypto} {p : P7} {c : Cert}
    (h : ∀ s ∈ p.signers, s.isCertificate c = false) : p.verify C c = .ok false :=
  verifySigners_ok_false_iff.mpr h

/-- F30 repair: `Attributes.Marshal` returns for every attribute value whose object identifiers are
    encodable — with or without a content type (parsed attributes may lack it; before the repair the
    builder panicked on the absent identifier).  (Parsed attributes hold only identifiers that
    `readOID` returned, whose first two arcs are in the range `validOID` asks for; that is not
    proved here.) -/
theorem C16_marshal_returns (a : Attrs) (hct : ∀ ct, a.contentType = some ct → Der.validOID ct = true)
    (ho : ∀ x ∈ a.other, Der.validOID x.1 = true) : ∃ b, a.marshal = .ok b := by
  unfold Attrs.marshal attrsBody
  have hall : (a.other.all fun x => Der.validOID x.1) = true := by
    rw [List.all_eq_true]; exact ho
  cases hc : a.contentType with
  | none => simp [hall]
  | some ct => simp [hct ct hc, hall]

/-! ### non-vacuity (toy cryptography: digest = identity, a signature is valid iff it equals the
    signed bytes) -/
section Examples
open GoUefi.P7Ex

/-- the attribute body `SignPKCS7` writes parses back to the values it was built from … -/
example : attrLoop body.length body { raw := some (Der.addASN1 Der.tSET body) } =
    some { attrs with raw := some (Der.addASN1 Der.tSET body) } := by decide +kernel
/-- … is canonical for them, and `Marshal` reproduces the signed bytes -/
example : Canon { attrs with raw := some (Der.addASN1 Der.tSET body) } body := by decide +kernel
example : ({ attrs with raw := some (Der.addASN1 Der.tSET body) } : Attrs).marshal =
    .ok (Der.addASN1 Der.tSET body) := by decide +kernel
/-- the parsed signer of the sample blob carries exactly these attributes -/
example : (parseP7 allOk blob).map (fun p => p.signers.map (·.attrs)) =
    some [some { attrs with raw := some (Der.addASN1 Der.tSET body) }] := by rw [parse_blob]; rfl

/-- A producer that writes contentType before messageDigest (not the DER SET OF order: here the
    messageDigest attribute has the shorter, hence smaller, encoding) and no signing time: the body
    is *not* canonical (`Marshal` of the parsed values differs from the signed bytes) … -/
example : attrLoop bodyReordered.length bodyReordered { raw := some (Der.addASN1 Der.tSET bodyReordered) } =
    some { attrsReordered with raw := some (Der.addASN1 Der.tSET bodyReordered) } := by
  decide +kernel
example : ¬ Canon { attrsReordered with raw := some (Der.addASN1 Der.tSET bodyReordered) }
    bodyReordered := by decide +kernel
example : ({ attrsReordered with raw := some (Der.addASN1 Der.tSET bodyReordered) } : Attrs).marshal ≠
    .ok (Der.addASN1 Der.tSET bodyReordered) := by decide +kernel
/-- the DER-sorted body for the same values (messageDigest first) is the canonical one -/
example : Canon { attrsReordered with raw := some (Der.addASN1 Der.tSET bodyReordered) }
    (attrSeq oidMessageDigest (Der.addOctets content) ++ attrSeq oidContentType (oidOr oid)) := by
  decide +kernel
/-- … and it verifies all the same, under the implementation and under the specification,
    because the signature is checked over the attributes as transmitted -/
example : run toy blobReordered cert = some (.ok true) := by
  rw [run, parse_blobReordered]; decide +kernel
example : Spec.cmsVerify toy blobReordered cert none = true := by decide +kernel
/-- a certificate nobody names -/
example : run toy blobReordered otherCert = some (.ok false) := by
  rw [run, parse_blobReordered]; decide +kernel

/-- `C16_marshal_returns`, in particular without a content type -/
example : (⟨none, [1, 2], none, [], none⟩ : Attrs).marshal ≠ .panic := by decide +kernel

end Examples

end GoUefi.C16

#print axioms GoUefi.C16.C16_reencode
#print axioms GoUefi.C16.C16_marshal_eq_raw_of_canonical_body
#print axioms GoUefi.C16.C16_canonical_iff_marshal_eq_raw
#print axioms GoUefi.C16.C16_parsed_reencode
#print axioms GoUefi.C16.C16_verify_independent_of_order
#print axioms GoUefi.C16.C16_verify_depends_on_raw_md
#print axioms GoUefi.C16.C16_wrong_cert_rejected
#print axioms GoUefi.C16.C16_marshal_returns

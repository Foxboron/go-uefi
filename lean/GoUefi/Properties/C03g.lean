import GoUefi.Gen
import GoUefi.Properties.C03
import GoUefi.Properties.C01g
import GoUefi.Properties.C10g
import GoUefi.Properties.C04g
import GoUefi.Model.Authenticode
import GoUefi.Lemmas.GenPe
/-!
# C03 (generated tie) — the signature-table half of `authenticode.PECOFFBinary`, as the source has it now

Translated by `tools/go2lean` from authenticode/checksum.go on every run: `AppendSignature`, `Signatures`,
`signatureBytes`, `Sign`, `Verify`, `Bytes`, `Open` (and the helpers `sectionReaderFromBytes`,
`copySectionReader`; `PaddingBytes`, `signature.ReadWinCertificate` / `WriteWinCertificate` are targets of C01g and C10g).

## Modelling (every assumption; also DESIGN §3 and tools/go2lean/sect.go)

The receiver is the generated structure `authenticode.PECOFFBinary`:
* `Datadir : pe.DataDirectory` — the struct of `debug/pe` itself (two `uint32` fields), loaded from the standard library;
* `certTable : List UInt8` — a `*bytes.Buffer` is the bytes written to it so far (nothing reads from this one);
* `length : Int` (Go `int`, no overflow modelled), `padding : List UInt8`;
* `optDataDir`, `firstSection`, `lastSection : SectionReader` — a `*io.SectionReader` is represented by THE BYTES THAT
  READING THE SECTION FROM ITS START DELIVERS (`GenPrelude.SectionReader`).  `sectionReaderFromBytes(b)` is `⟨b⟩`,
  `copySectionReader(sr)` is `sr` (the same bytes again from the start).  `firstSection` / `lastSection` are sections of
  the CALLER'S `io.ReaderAt`: they are arbitrary values here (the theorems quantify over all of them); assumed is that
  that reader does not fail and delivers the same bytes whenever it is read — the harness exercises readers that do
  not.  This matters for `Bytes`/`Open` only;
* `hashContent : ReaderAtRef` — a `SizeReaderAt` over the caller's reader: a reference that the translated code can
  only hand to the external `makeSectionReader`.
Externals (fields of `authenticode.Ext`, universally quantified in every theorem): `SignAuthenticode`,
`ParseAuthenticode`, `makeSectionReader`, the digest function of the standard library `crypto_Hash_Sum` (what
`alg.New()` + writes + `Sum(nil)` compute), and `pkcs7 : pkcs7.Ext` — the Ext structure of package pkcs7 (its one field:
`signerinfo.verify`), which the translated `(*Authenticode).verifyDigest` hands to the translated `pkcs7.PKCS7.Verify`.
They are functions of their arguments AS THE TRANSLATION REPRESENTS THEM: an `Authenticode` value keeps `Pkcs`, `Digest`
and `Algid : pkix.AlgorithmIdentifier` (the standard-library struct, loaded: `Algorithm` the list of the identifier's
components, `Parameters` opaque); a reader argument is the bytes it delivers, and what the callee leaves of a reader made
for that one call is dropped.  `(*Authenticode).verifyDigest(cert, imageDigest)` IS TRANSLATED (section 5): its
function-typed parameter is the triple state type / step function / state, it returns the state it leaves in front of
its results, and a call `imageDigest(alg)` is the step function applied to the current state — that it reaches the
closure's state only by calling the closure is visible in `Gen.lean` and proved (`C03g_verifyDigest`,
`C03g_verifyDigest_callsOnly`), not assumed.  `crypto.Hash.Size()` is the prelude's table `cryptoHashSize`
(`crypto.SHA256` = 5: 32; the panic for an unregistered identifier is not modelled), `ObjectIdentifier.Equal` is
equality of the lists, the three `errors.New(…)` of `verifyDigest` are the one value `some "errors.New"` (messages of
fresh errors are not modelled, as everywhere in the translation).  The exported `(*Authenticode).Verify(cert, img)` is
translated too (its function literal is the closure `authenticode.Authenticode.Verify.imageDigest1` over the reader).
`binary.Write` into a `bytes.Buffer` cannot fail (its error is `nil` in the translation, so the `fmt.Errorf` branch of
`AppendSignature` is dead code there, as it is in Go).  Aliasing is not modelled (the harness checks that `Bytes()` results
stay intact).

`Signatures()` has an unbounded `for` loop: the translated function takes a fuel argument; `C03g_signatures` and
`C03g_signatures_fuel` show that any fuel above the table length gives the same answer and is never used up.
-/
namespace GoUefi.C03
open GoUefi GoUefi.Gen GoUefi.GenPe
open GoUefi.C10 (absWC)

-- the examples of `C03g_append_then_signatures` decide its hypothesis `hwalk`, an equation between `Loop` values
deriving instance DecidableEq for Loop

/-! ### abstraction of the receiver -/

/-- the receiver as the hand-written model sees it (`Impl.Parsed`, Model/Pe.lean).  The model keeps the hash parts and
    the `regular` flag, of which the translated structure has only the reference `hashContent`: they are parameters.
    The model's `padding` is a number of zero bytes. -/
def absP (p : authenticode.PECOFFBinary) (parts : List Impl.Part) (regular : Bool) : Impl.Parsed :=
  { ddVA := p.Datadir.VirtualAddress.toNat, ddSize := p.Datadir.Size.toNat, parts := parts,
    length := p.length.toNat, padding := p.padding.length, first := p.firstSection.content,
    optDataDir := p.optDataDir.content, last := p.lastSection.content, certTable := p.certTable,
    regular := regular }

/-- the WIN_CERTIFICATE that `AppendSignature sig` builds: `dwLength = uint32(8 + len(sig))`, revision 2.0, PKCS#7 -/
def newEntry (sig : List UInt8) : signature.WINCertificate :=
  ⟨UInt32.ofInt (8 + (sig.length : Int)), 0x0200, 0x0002, sig⟩

/-- its bytes in the table, with the zero padding to 8 behind them -/
def newEntryBytes (sig : List UInt8) : List UInt8 :=
  le32 (newEntry sig).Length.toNat ++ le16 0x0200 ++ le16 0x0002 ++ sig ++ zeros (pad8 (newEntry sig).Length.toNat)

/-- the directory entry that `AppendSignature sig` leaves, in `uint32` arithmetic -/
def newDatadir (p : authenticode.PECOFFBinary) (sig : List UInt8) : pe.DataDirectory :=
  let L := (newEntry sig).Length
  if p.Datadir.VirtualAddress ≠ 0 ∧ p.Datadir.Size ≠ 0 then
    ⟨p.Datadir.VirtualAddress, p.Datadir.Size + L + UInt32.ofNat (pad8 L.toNat)⟩
  else ⟨UInt32.ofInt p.length, L + UInt32.ofNat (pad8 L.toNat)⟩

/-! ### 1. `AppendSignature` -/

/-- **what `AppendSignature sig` does to the receiver — every receiver, every signature, one equation**:
    * `certTable' = certTable ++ WIN_CERTIFICATE(dwLength = uint32(8 + |sig|), wRevision 0x0200, wCertificateType
      0x0002, sig) ++ zero padding of dwLength to 8`;
    * `Datadir' = (VirtualAddress, Size + dwLength + pad)` when both fields were non-zero, else
      `(uint32(length), dwLength + pad)`, in `uint32` arithmetic (wrap-around);
    * `optDataDir'` = the 8 little-endian bytes of `Datadir'`;
    * nothing else changes (`hashContent`, `length`, `padding`, `firstSection`, `lastSection`); the error is `nil`. -/
theorem C03g_append (p : authenticode.PECOFFBinary) (sig : List UInt8) :
    p.AppendSignature sig =
      ({ p with Datadir := newDatadir p sig,
                certTable := p.certTable ++ newEntryBytes sig,
                optDataDir := ⟨le32 (newDatadir p sig).VirtualAddress.toNat ++ le32 (newDatadir p sig).Size.toNat⟩ },
       none) := by
  unfold authenticode.PECOFFBinary.AppendSignature newDatadir newEntryBytes newEntry
  -- the test `!= 0 && != 0` of the source becomes the condition of `newDatadir`
  simp only [lenI_eq, paddingBytes_uint32, GenAuthDesc.writeWinCert_tie, absWC, ofInt_natCast,
    authenticode.sectionReaderFromBytes, Impl.writeWinCert, encLE_pe_DataDirectory, encLE32_eq, List.nil_append,
    Option.isSome_none, Bool.false_eq_true, if_false, List.append_assoc, Bool.and_eq_true, bne_iff_ne]
  split
  · simp only [List.append_assoc]
    rfl
  · simp only [List.append_assoc]
    rfl

theorem append_certTable (p : authenticode.PECOFFBinary) (sig : List UInt8) :
    (p.AppendSignature sig).1.certTable = p.certTable ++ newEntryBytes sig := by rw [C03g_append]

theorem newEntry_Length (sig : List UInt8) : (newEntry sig).Length = UInt32.ofNat (8 + sig.length) :=
  ofInt_natCast (8 + sig.length)

theorem newEntry_toNat (sig : List UInt8) : (newEntry sig).Length.toNat = (8 + sig.length) % 2 ^ 32 := by
  rw [newEntry_Length, UInt32.toNat_ofNat']

theorem newEntry_toNat_of_lt {sig : List UInt8} (h32 : 8 + sig.length < 2 ^ 32) :
    (newEntry sig).Length.toNat = 8 + sig.length :=
  (newEntry_toNat sig).trans (Nat.mod_eq_of_lt h32)

theorem newEntryBytes_length (sig : List UInt8) :
    (newEntryBytes sig).length = 8 + sig.length + pad8 (newEntry sig).Length.toNat := by
  simp only [newEntryBytes, le32, le16, zeros, List.length_append, List.length_cons, List.length_nil,
    List.length_replicate]

theorem newDatadir_toNat (p : authenticode.PECOFFBinary) (sig : List UInt8) :
    (newDatadir p sig).VirtualAddress.toNat =
      (if p.Datadir.VirtualAddress ≠ 0 ∧ p.Datadir.Size ≠ 0 then p.Datadir.VirtualAddress.toNat
        else (UInt32.ofInt p.length).toNat) ∧
    (newDatadir p sig).Size.toNat =
      ((if p.Datadir.VirtualAddress ≠ 0 ∧ p.Datadir.Size ≠ 0 then p.Datadir.Size.toNat else 0) +
        (newEntry sig).Length.toNat + pad8 (newEntry sig).Length.toNat) % 2 ^ 32 := by
  unfold newDatadir
  split
  · exact ⟨rfl, by simp only [UInt32.toNat_add, toNat_ofNat_pad8, Nat.mod_add_mod]⟩
  · exact ⟨rfl, by simp only [UInt32.toNat_add, toNat_ofNat_pad8, Nat.zero_add]⟩

/-- the numbers in it: `dwLength` is `(8 + |sig|) mod 2^32`; the padding has fewer than 8 bytes and completes `dwLength`
    to a multiple of 8; the table grows by exactly `8 + |sig| + pad` bytes -/
theorem C03g_append_numbers (p : authenticode.PECOFFBinary) (sig : List UInt8) :
    (newEntry sig).Length.toNat = (8 + sig.length) % 2 ^ 32 ∧
    pad8 (newEntry sig).Length.toNat < 8 ∧ ((newEntry sig).Length.toNat + pad8 (newEntry sig).Length.toNat) % 8 = 0 ∧
    (p.AppendSignature sig).1.certTable.length =
      p.certTable.length + 8 + sig.length + pad8 (newEntry sig).Length.toNat := by
  refine ⟨newEntry_toNat sig, pad8_lt _, add_pad8_mod _, ?_⟩
  rw [append_certTable, List.length_append, newEntryBytes_length]
  simp only [Nat.add_assoc]

/-- without overflow (`|sig| + 8 < 2^32`, old `Size` + the new entry `< 2^32`, `0 ≤ length < 2^32`) the directory entry
    is what one expects: when both fields were non-zero the address is kept and the size grows by the length of what was
    appended to the table (so `Size' = |certTable'|` if `Size = |certTable|`); otherwise the address becomes `length` and
    the size is the length of what was appended, whatever `Size` was -/
theorem C03g_append_no_overflow (p : authenticode.PECOFFBinary) (sig : List UInt8)
    (h32 : 8 + sig.length < 2 ^ 32)
    (hfit : p.Datadir.Size.toNat + 8 + sig.length + pad8 (8 + sig.length) < 2 ^ 32)
    (hlen : 0 ≤ p.length ∧ p.length < 2 ^ 32) :
    let p' := (p.AppendSignature sig).1
    p'.Datadir.VirtualAddress.toNat =
      (if p.Datadir.VirtualAddress ≠ 0 ∧ p.Datadir.Size ≠ 0 then p.Datadir.VirtualAddress.toNat else p.length.toNat) ∧
    p'.Datadir.Size.toNat =
      (if p.Datadir.VirtualAddress ≠ 0 ∧ p.Datadir.Size ≠ 0 then p.Datadir.Size.toNat else 0) +
        (8 + sig.length + pad8 (8 + sig.length)) ∧
    p'.certTable.length = p.certTable.length + (8 + sig.length + pad8 (8 + sig.length)) := by
  have hL := newEntry_toNat_of_lt h32
  have hva : (UInt32.ofInt p.length).toNat = p.length.toNat :=
    (toNat_ofInt_nonneg hlen.1).trans (Nat.mod_eq_of_lt ((Int.toNat_lt hlen.1).mpr hlen.2))
  obtain ⟨h1, h2⟩ := newDatadir_toNat p sig
  simp only [C03g_append, List.length_append, newEntryBytes_length, h1, h2, hL, hva, true_and, and_true]
  -- nothing wraps
  simp only [Nat.add_assoc] at hfit ⊢
  split
  · exact Nat.mod_eq_of_lt hfit
  · rw [Nat.zero_add]
    exact Nat.mod_eq_of_lt (Nat.lt_of_le_of_lt (Nat.le_add_left _ _) hfit)

/-- **refinement**: through `absP` the translated `AppendSignature` is the hand-written model's
    `Impl.Parsed.appendSignature` (Model/Pe.lean, about which `C03_layout … C03_signatures` are proved) — every
    receiver with a non-negative `length`, every signature, no size hypothesis (both sides wrap alike) -/
theorem C03g_append_refines (p : authenticode.PECOFFBinary) (sig : List UInt8) (parts : List Impl.Part)
    (regular : Bool) (h0 : 0 ≤ p.length) :
    absP (p.AppendSignature sig).1 parts regular = (absP p parts regular).appendSignature sig := by
  rw [C03g_append]
  unfold Impl.Parsed.appendSignature absP
  simp only [newDatadir, newEntryBytes, newEntry_toNat, Impl.winCertTypePkcs, Impl.writeWinCert,
    List.append_assoc, ne_zero_iff_toNat]
  -- both sides wrap alike
  by_cases hc : p.Datadir.VirtualAddress.toNat ≠ 0 ∧ p.Datadir.Size.toNat ≠ 0
  · simp only [if_pos hc, UInt32.toNat_add, newEntry_toNat, toNat_ofNat_pad8]
  · simp only [if_neg hc, UInt32.toNat_add, newEntry_toNat, toNat_ofNat_pad8, toNat_ofInt_nonneg h0]

/-! ### 2. `Signatures()` -/

/-- `Signatures()` looks at the certificate table only -/
theorem C03g_signatures_table (fuel : Nat) (p q : authenticode.PECOFFBinary) (h : p.certTable = q.certTable) :
    p.Signatures fuel = q.Signatures fuel := by
  unfold authenticode.PECOFFBinary.Signatures authenticode.PECOFFBinary.signatureBytes
  rw [h]

/-- **frame** (what C19 needs of `Signatures`, `Verify`, `Bytes`, `Open`, `signatureBytes`): the translator returns a
    new receiver from a method exactly when the method — or anything it calls — writes through its receiver (also through
    a buffer that is a field: `p.certTable.Write/Read/Next/ReadFrom`, or by handing `p.certTable` to a function that
    consumes its reader argument).  These five return their Go results ONLY: the types below are the statement.  A change
    that makes one of them consume or rebuild the table changes the type and this theorem (and every one below) stops
    compiling. -/
theorem C03g_frame :
    (∃ f : Nat → authenticode.PECOFFBinary → List signature.WINCertificate × GoErr,
        f = authenticode.PECOFFBinary.Signatures) ∧
    (∃ f : Nat → authenticode.Ext → authenticode.PECOFFBinary → X509Cert → Bool × GoErr,
        f = authenticode.PECOFFBinary.Verify) ∧
    (∃ f : authenticode.PECOFFBinary → List UInt8, f = authenticode.PECOFFBinary.Bytes) ∧
    (∃ f : authenticode.PECOFFBinary → List UInt8, f = authenticode.PECOFFBinary.Open) ∧
    (∃ f : authenticode.PECOFFBinary → List UInt8, f = authenticode.PECOFFBinary.signatureBytes) :=
  ⟨⟨_, rfl⟩, ⟨_, rfl⟩, ⟨_, rfl⟩, ⟨_, rfl⟩, ⟨_, rfl⟩⟩

theorem signatures_eq_walk (fuel : Nat) (p : authenticode.PECOFFBinary) :
    p.Signatures fuel =
      match walk fuel p.certTable with
      | .ret r => r
      | .done m => (m.1, none) := rfl

/-- the walk, step by step.  With `t` the table and any fuel `f + 1`:
    * at most 8 bytes: no entries, no error;
    * more than 8 bytes and `ReadWinCertificate` fails: an EMPTY list and that error (wrapped);
    * more than 8 bytes and `ReadWinCertificate` returns `w`, leaving `rest` (it consumed exactly `dwLength` bytes):
      `w` is listed and the walk goes on behind `pad8 dwLength` further bytes (or at the end when fewer are left); an
      error further on comes back as it is, with the list it carries. -/
theorem C03g_signatures_step (f : Nat) (p : authenticode.PECOFFBinary) :
    (p.certTable.length ≤ 8 → p.Signatures (f + 1) = ([], none)) ∧
    (∀ rest w e, 8 < p.certTable.length → signature.ReadWinCertificate p.certTable = (rest, w, some e) →
      p.Signatures (f + 1) = ([], goWrap (some e))) ∧
    (∀ rest w, 8 < p.certTable.length → signature.ReadWinCertificate p.certTable = (rest, w, none) →
      rest = p.certTable.drop w.Length.toNat ∧ 8 ≤ w.Length.toNat ∧ w.Length.toNat ≤ p.certTable.length ∧
      p.Signatures (f + 1) =
        match ({ p with certTable := rest.drop (pad8 w.Length.toNat) } : authenticode.PECOFFBinary).Signatures f with
        | (ws, none) => (w :: ws, none)
        | (ws, some e) => (ws, some e)) := by
  refine ⟨fun h => ?_, fun rest w e h8 hr => ?_, fun rest w h8 hr => ?_⟩
  · rw [signatures_eq_walk, walk_short f h]
  · rw [signatures_eq_walk, walk_err f h8 hr]
  · obtain ⟨hL8, hLt, hrest⟩ := read_ok_span hr
    refine ⟨hrest, hL8, hLt, ?_⟩
    rw [signatures_eq_walk, signatures_eq_walk, walk_ok f h8 hr]
    cases hw : walk f (rest.drop (pad8 w.Length.toNat)) with
    | ret r =>
      -- a `return` inside the loop: `([], err)` with `err ≠ nil`
      obtain ⟨e, rfl⟩ := loop_ret_shape _ _ _ _ hw
      rfl
    | done m => rfl

/-- **refinement, read off the result of `Signatures()`**: with any fuel above the table length, a list without an error
    is the model's list (through `absWC`); an error is the model's `.err`, and is the wrapped error of some
    `ReadWinCertificate`, with an empty list -/
theorem signatures_model (fuel : Nat) (p : authenticode.PECOFFBinary) (parts : List Impl.Part) (regular : Bool)
    (hf : p.certTable.length < fuel) :
    match p.Signatures fuel with
    | (gws, none) => (absP p parts regular).signatures = .ok (gws.map absWC)
    | (gws, some e') => (absP p parts regular).signatures = .err ∧
        ∃ t' r w e, signature.ReadWinCertificate t' = (r, w, some e) ∧ (gws, some e') = ([], goWrap (some e)) := by
  have h := walk_model fuel p.certTable.length p.certTable hf (Nat.le_refl _)
  rw [signatures_eq_walk]
  cases hw : walk fuel p.certTable with
  | done q => rw [hw] at h; exact h
  | ret r =>
    rw [hw] at h
    obtain ⟨hm, t', r', w, e, hre, rfl⟩ := h
    exact ⟨hm, t', r', w, e, hre, rfl⟩

/-- **refinement**: with any fuel above the table length the translated `Signatures()` computes what the model's
    walker `Impl.Parsed.signatures` computes (`Impl.signaturesAux`, about which `C03_signatures` is proved): the same
    entries in the same order (through `absWC`), an error — the wrapped error of some call of `ReadWinCertificate` (the
    statement does not say on which bytes), with an EMPTY list — exactly when the model reports one.  The fuel is never
    used up. -/
theorem C03g_signatures (fuel : Nat) (p : authenticode.PECOFFBinary) (parts : List Impl.Part) (regular : Bool)
    (hf : p.certTable.length < fuel) :
    match (absP p parts regular).signatures with
    | .ok ws => ∃ gws, p.Signatures fuel = (gws, none) ∧ gws.map absWC = ws
    | _ => ∃ t' r w e, signature.ReadWinCertificate t' = (r, w, some e) ∧
        p.Signatures fuel = ([], goWrap (some e)) ∧ goWrap (some e) ≠ some "go2lean:out-of-fuel" := by
  have h := signatures_model fuel p parts regular hf
  rcases hs : p.Signatures fuel with ⟨gws, _ | e'⟩
  · rw [hs] at h
    rw [h]
    exact ⟨gws, rfl, rfl⟩
  · rw [hs] at h
    obtain ⟨hm, t', r, w, e, hre, he⟩ := h
    rw [hm]
    exact ⟨t', r, w, e, hre, he, goWrap_ne_fuel e⟩

/-- the model's walker returns (`.ok` or `.err`), so the second case above is `.err` -/
theorem C03g_signatures_model_returns (p : Impl.Parsed) : p.signatures ≠ .panic ∧ p.signatures ≠ .exit :=
  p.signatures_spec.returns

/-- the fuel is irrelevant: any two amounts above the table length give the same answer -/
theorem C03g_signatures_fuel (f1 f2 : Nat) (p : authenticode.PECOFFBinary)
    (h1 : p.certTable.length < f1) (h2 : p.certTable.length < f2) :
    p.Signatures f1 = p.Signatures f2 := by
  rw [signatures_eq_walk, signatures_eq_walk, walk_fuel f1 f2 _ h1 h2]

/-! ### 3. `AppendSignature` then `Signatures()` -/

/-- **after `AppendSignature sig`, `Signatures()` lists the old entries followed by the new one.**
    Hypotheses (for what the library does without one of the first three see examples (a)–(c) at the end; the last
    one fails only for a signature of 4 GiB, on which nothing is evaluated):
    * the walk of the old table lists `es` and leaves NOTHING over, and the old table is a multiple of 8 bytes long
      (so every old entry, the last one included, is followed by its full padding);
    * `sig` is not empty (an entry without a body at the end of the table is not listed: the loop stops at 8 bytes);
    * no overflow of `dwLength`: `8 + |sig| < 2^32`.
    Any fuel above the respective table length. -/
theorem C03g_append_then_signatures (p : authenticode.PECOFFBinary) (sig : List UInt8)
    (es : List signature.WINCertificate) (f0 fuel : Nat)
    (hwalk : authenticode.PECOFFBinary.Signatures.loop1 f0 [] p.certTable = Loop.done (es, []))
    (h8 : p.certTable.length % 8 = 0) (hne : sig ≠ []) (h32 : 8 + sig.length < 2 ^ 32)
    (hf : (p.AppendSignature sig).1.certTable.length < fuel) :
    (p.AppendSignature sig).1.Signatures fuel = (es ++ [newEntry sig], none) := by
  -- without overflow of `dwLength` the bytes appended are the model's entry
  have ht : (p.AppendSignature sig).1.certTable = p.certTable ++ PeSign.sigEntry sig := by
    rw [append_certTable]
    simp only [newEntryBytes, newEntry_toNat_of_lt h32, PeSign.sigEntry, Impl.writeWinCert, List.append_assoc]
  have hw := (walksTo_of_walk f0 p.certTable es hwalk h8).append (walksTo_entry sig hne h32)
  rw [← ht] at hw
  rw [signatures_eq_walk, hw.walk fuel hf, ← newEntry_Length]
  rfl

/-! ### 4. `Sign` -/

/-- **`Sign key cert`**: the external `SignAuthenticode` is handed the key, the certificate, the bytes of
    `makeSectionReader(p.hashContent)` and `crypto.SHA256` (= 5).  When it reports an error the receiver is UNCHANGED and
    the results are `(nil, error)` (what C15 asks); otherwise the receiver is exactly what `AppendSignature` of the
    returned signature makes of it (`C03g_append`), the signature is returned and the error is `nil`. -/
theorem C03g_sign (X : authenticode.Ext) (p : authenticode.PECOFFBinary) (key : CryptoSigner) (cert : X509Cert) :
    let r := X.SignAuthenticode key cert (X.makeSectionReader p.hashContent).content (5 : crypto.Hash)
    authenticode.PECOFFBinary.Sign X p key cert =
      if r.2.2.isSome then (p, [], some "fmt.Errorf")
      else ((p.AppendSignature r.2.1).1, r.2.1, none) := by
  intro r
  -- `AppendSignature` reports no error (`C03g_append`): its error branch in `Sign` is dead
  have h : ∀ sig, (p.AppendSignature sig).2.isSome = false := fun sig => by rw [C03g_append]; rfl
  unfold authenticode.PECOFFBinary.Sign
  simp only [h, Bool.false_eq_true, if_false]
  rfl

/-- a failed signing leaves the receiver as it was (C15, for every value of the externals) -/
theorem C03g_sign_failed_unchanged (X : authenticode.Ext) (p : authenticode.PECOFFBinary) (key : CryptoSigner)
    (cert : X509Cert) (h : (authenticode.PECOFFBinary.Sign X p key cert).2.2.isSome) :
    (authenticode.PECOFFBinary.Sign X p key cert).1 = p := by
  rw [C03g_sign] at h ⊢
  split at h
  · rw [if_pos ‹_›]
  · cases h

/-- … and a successful one is `AppendSignature` of what is returned -/
theorem C03g_sign_ok (X : authenticode.Ext) (p : authenticode.PECOFFBinary) (key : CryptoSigner)
    (cert : X509Cert) (h : (authenticode.PECOFFBinary.Sign X p key cert).2.2 = none) :
    (authenticode.PECOFFBinary.Sign X p key cert).1 =
      (p.AppendSignature (authenticode.PECOFFBinary.Sign X p key cert).2.1).1 := by
  rw [C03g_sign] at h ⊢
  split at h
  · cases h
  · rw [if_neg ‹_›]

/-! ### 5. `Verify`

The library hashes the image once per `Verify` call (the F38 repair, commit "PECOFFBinary.Verify hashes the image once
per call"): the loop hands every parsed entry to `(*Authenticode).verifyDigest(cert, imageDigest)`, where `imageDigest`
is a LOCAL CLOSURE that memoises the digest per algorithm in a local `map[crypto.Hash][]byte`.  In the translation
(tools/go2lean/fnarg.go):
* the map is the association list `Memo`; the closure is the helper `authenticode.PECOFFBinary.Verify.imageDigest X p`,
  a STATE MACHINE `Memo → crypto.Hash → Memo × List UInt8 × GoErr` (it returns the map it leaves);
* `alg.New()`, `io.Copy(h, makeSectionReader(p.hashContent))`, `h.Sum(nil)` are `X.crypto_Hash_Sum alg bytes` — the digest
  function of the standard library is the field `crypto_Hash_Sum` of `authenticode.Ext`, a function of the algorithm and
  the bytes (so: deterministic, as is `X.makeSectionReader`); `io.Copy` from a reader that does not fail into a
  `hash.Hash` (whose `Write` never fails) reports no error, so the closure's error branch is dead in the translation;
* `verifyDigest` IS TRANSLATED: `authenticode.Authenticode.verifyDigest X' a cert σ step s : σ × Bool × GoErr` (X' the Ext
  structure of pkcs7) takes the state type, the step function and the current state and returns the state it leaves.
  What it does with them is in `Gen.lean`: `C03g_verifyDigest` says it for EVERY state machine.
What `Verify` computes is stated without a hypothesis on an external (`C03g_verify`, `C03g_verify_true_iff`); only the
refinements of the hand model (`C03g_verifyDigest_model`, `C03g_verify_refines`) assume that the externals compute what
the model's functions compute. -/

/-- the local `map[crypto.Hash][]byte` of one `Verify` call: at most one entry per algorithm (`List.lookup`, `mapSet`) -/
abbrev Memo := List (crypto.Hash × List UInt8)

/-- **the UNMEMOISED digest function**: the digest, under `alg`, of the bytes that `makeSectionReader(p.hashContent)`
    delivers; no error -/
def imageDigest (X : authenticode.Ext) (p : authenticode.PECOFFBinary) (alg : crypto.Hash) : List UInt8 × GoErr :=
  (X.crypto_Hash_Sum alg (X.makeSectionReader p.hashContent).content, none)

/-- **what the translated closure does**: an algorithm that is in the map answers the stored digest and leaves the map as
    it is; one that is not is hashed, stored, and answered -/
theorem C03g_imageDigest_step (X : authenticode.Ext) (p : authenticode.PECOFFBinary) (m : Memo) (alg : crypto.Hash) :
    authenticode.PECOFFBinary.Verify.imageDigest X p m alg =
      match m.lookup alg with
      | some d => (m, d, none)
      | none => (mapSet m alg (imageDigest X p alg).1, (imageDigest X p alg).1, none) := by
  unfold authenticode.PECOFFBinary.Verify.imageDigest imageDigest
  cases h : List.lookup alg m with
  | some d => simp
  | none => simp [lookup_mapSet]

/-- the invariant of the map: whatever it holds for an algorithm is the unmemoised digest under that algorithm -/
def MemoOk (X : authenticode.Ext) (p : authenticode.PECOFFBinary) (m : Memo) : Prop :=
  ∀ alg d, m.lookup alg = some d → d = (imageDigest X p alg).1

theorem memoOk_nil (X : authenticode.Ext) (p : authenticode.PECOFFBinary) : MemoOk X p [] :=
  fun _ _ h => nomatch h

/-- **the memoisation is invisible**: from a map that satisfies the invariant the closure ANSWERS WHAT THE UNMEMOISED
    FUNCTION ANSWERS, and leaves a map that satisfies the invariant — because the digest external and
    `makeSectionReader` are functions of their arguments (the same bytes hash to the same digest every time) -/
theorem C03g_imageDigest_memo (X : authenticode.Ext) (p : authenticode.PECOFFBinary) (m : Memo) (alg : crypto.Hash)
    (h : MemoOk X p m) :
    MemoOk X p (authenticode.PECOFFBinary.Verify.imageDigest X p m alg).1 ∧
    (authenticode.PECOFFBinary.Verify.imageDigest X p m alg).2 = imageDigest X p alg := by
  rw [C03g_imageDigest_step]
  cases hl : List.lookup alg m with
  | some d => exact ⟨h, congrArg (·, none) (h alg d hl)⟩
  | none =>
    refine ⟨?_, rfl⟩
    intro alg' d' hd'
    simp only [] at hd'
    rw [lookup_mapSet] at hd'
    split at hd'
    · -- the algorithm just stored
      cases eq_of_beq ‹_›
      exact (Option.some.inj hd').symm
    · exact h alg' d' hd'

/-! #### `(*Authenticode).verifyDigest`, translated -/

/-- `crypto.SHA256.Size()` -/
theorem cryptoHashSize_sha256 : cryptoHashSize 5 = 32 := by decide

/-- **`verifyDigest(cert, imageDigest)`, for every receiver, every certificate, every value of pkcs7's externals and
    EVERY STATE MACHINE `step` / state `s` standing for the closure** — the checks of the source, in their order:
    1. the digest algorithm of the signature is not SHA-256 (`a.Algid.Algorithm.Equal(pkcs7.OIDDigestAlgorithmSHA256)`
       fails) → `(false, error)`, THE CLOSURE IS NOT CALLED (the state comes back as it was handed);
    2. the embedded digest does not have the length of SHA-256 (`crypto.SHA256.Size()` = 32) → `(false, error)`, the
       closure is not called;
    3. otherwise the closure is called EXACTLY ONCE, for `crypto.SHA256` (5), from the state that was handed, and the
       state it leaves is the one returned; its error → `(false, that error)`;
    4. the digest it answers is not the embedded digest → `(false, error)` ("incorrect digest");
    5. otherwise the answer is `a.Pkcs.Verify(cert)` (the translated `pkcs7.PKCS7.Verify`, theorems `C04g_*`). -/
theorem C03g_verifyDigest (X : pkcs7.Ext) (a : authenticode.Authenticode) (c : X509Cert) (σ : Type)
    (step : σ → crypto.Hash → σ × List UInt8 × GoErr) (s : σ) :
    authenticode.Authenticode.verifyDigest X a c σ step s =
      if a.Algid.Algorithm ≠ pkcs7.OIDDigestAlgorithmSHA256 then (s, false, some "errors.New")
      else if a.Digest.length ≠ 32 then (s, false, some "errors.New")
      else if (step s 5).2.2.isSome then ((step s 5).1, false, (step s 5).2.2)
      else if (step s 5).2.1 ≠ a.Digest then ((step s 5).1, false, some "errors.New")
      else ((step s 5).1, a.Pkcs.Verify X c) := by
  unfold authenticode.Authenticode.verifyDigest
  -- `crypto.SHA256.Size() != len(a.Digest)`, on `int`
  have h32 : ((cryptoHashSize 5 != lenI a.Digest) = true) = ¬ a.Digest.length = 32 := by
    rw [lenI_eq, cryptoHashSize_sha256, bne_iff_ne]
    exact propext (not_congr (eq_comm.trans Int.natCast_inj))
  -- with the tests read as propositions the nest of the source is the chain, each `if ¬ c` with its branches exchanged
  simp only [h32, beq_iff_eq, ite_not, ne_eq, Bool.not_eq_eq_eq_not, Bool.not_true, beq_eq_false_iff_ne]

/-- **what `verifyDigest` returns on a PURE digest function `f`** (a closure without state): the same five cases -/
def verifyDigestOf (X : pkcs7.Ext) (a : authenticode.Authenticode) (c : X509Cert)
    (f : crypto.Hash → List UInt8 × GoErr) : Bool × GoErr :=
  if a.Algid.Algorithm ≠ pkcs7.OIDDigestAlgorithmSHA256 then (false, some "errors.New")   -- unsupported hashing function
  else if a.Digest.length ≠ 32 then (false, some "errors.New")                              -- wrong block size
  else if (f 5).2.isSome then (false, (f 5).2)                                              -- the closure's error
  else if (f 5).1 ≠ a.Digest then (false, some "errors.New")                                -- incorrect digest
  else a.Pkcs.Verify X c

/-- **the translated `verifyDigest`, factored**: the verdict is `verifyDigestOf` of what the closure answers from the
    state handed in; the state moves by the one call for SHA-256, which happens exactly when the first two checks pass -/
theorem verifyDigest_eq (X : pkcs7.Ext) (a : authenticode.Authenticode) (c : X509Cert) (σ : Type)
    (step : σ → crypto.Hash → σ × List UInt8 × GoErr) (s : σ) :
    authenticode.Authenticode.verifyDigest X a c σ step s =
      (if a.Algid.Algorithm = pkcs7.OIDDigestAlgorithmSHA256 ∧ a.Digest.length = 32 then (step s 5).1 else s,
        verifyDigestOf X a c fun alg => (step s alg).2) := by
  rw [C03g_verifyDigest]
  unfold verifyDigestOf
  by_cases h1 : a.Algid.Algorithm = pkcs7.OIDDigestAlgorithmSHA256
  · by_cases h2 : a.Digest.length = 32
    · simp only [h1, h2, and_self, ne_eq, not_true_eq_false, ↓reduceIte]
      rw [apply_ite (Prod.mk (step s 5).1), apply_ite (Prod.mk (step s 5).1)]
    · simp only [h1, h2, and_false, ne_eq, not_true_eq_false, not_false_eq_true, ↓reduceIte]
  · simp only [h1, false_and, ne_eq, not_false_eq_true, ↓reduceIte]

theorem verifyDigestOf_eq (X : pkcs7.Ext) (a : authenticode.Authenticode) (c : X509Cert)
    (f : crypto.Hash → List UInt8 × GoErr) :
    verifyDigestOf X a c f = (authenticode.Authenticode.verifyDigest X a c Unit (fun _ alg => ((), f alg)) ()).2 := by
  rw [verifyDigest_eq]

/-- **`verifyDigest` reaches the state of the closure it is handed ONLY BY CALLING THE CLOSURE — a theorem about the
    translated function**: for every state machine `step` that from the states of an invariant `I` answers what a pure
    function `f` answers and stays inside `I`, `verifyDigest` started inside `I` ends inside `I` and answers what it
    answers on `f` -/
theorem C03g_verifyDigest_callsOnly (X : pkcs7.Ext) (a : authenticode.Authenticode) (c : X509Cert) (σ : Type)
    (step : σ → crypto.Hash → σ × List UInt8 × GoErr) (f : crypto.Hash → List UInt8 × GoErr) (I : σ → Prop) (s : σ)
    (hs : I s) (hstep : ∀ s alg, I s → I (step s alg).1 ∧ (step s alg).2 = f alg) :
    I (authenticode.Authenticode.verifyDigest X a c σ step s).1 ∧
      (authenticode.Authenticode.verifyDigest X a c σ step s).2 = verifyDigestOf X a c f := by
  rw [verifyDigest_eq]
  constructor
  · show I (if _ then _ else _)
    split
    · exact (hstep s 5 hs).1
    · exact hs
  · exact congrArg (verifyDigestOf X a c) (funext fun alg => (hstep s alg hs).2)

theorem verifyDigestOf_iff (X : pkcs7.Ext) (a : authenticode.Authenticode) (c : X509Cert)
    (f : crypto.Hash → List UInt8 × GoErr) (b : Bool) :
    verifyDigestOf X a c f = (b, none) ↔
      a.Algid.Algorithm = pkcs7.OIDDigestAlgorithmSHA256 ∧ a.Digest.length = 32 ∧ (f 5).2 = none ∧
        a.Digest = (f 5).1 ∧ a.Pkcs.Verify X c = (b, none) := by
  unfold verifyDigestOf
  -- each of the four checks, when it fails, answers with an error, never `(b, none)`
  by_cases h1 : a.Algid.Algorithm = pkcs7.OIDDigestAlgorithmSHA256
  · by_cases h2 : a.Digest.length = 32
    · cases h3 : (f 5).2 with
      | some e => simp [h1, h2]
      | none =>
        by_cases h4 : (f 5).1 = a.Digest
        · simp [h1, h2, h4]
        · have h4' : ¬ a.Digest = (f 5).1 := fun h => h4 h.symm
          simp [h1, h2, h4, h4']
    · simp [h1, h2]
  · simp [h1]

/-- success of `verifyDigest`, spelled out: SHA-256 is named, the embedded digest has 32 bytes and IS the digest that the
    closure answers for SHA-256 (without an error), and the PKCS#7 verifies under the certificate -/
theorem verifyDigestOf_true_iff (X : pkcs7.Ext) (a : authenticode.Authenticode) (c : X509Cert)
    (f : crypto.Hash → List UInt8 × GoErr) :
    verifyDigestOf X a c f = (true, none) ↔
      a.Algid.Algorithm = pkcs7.OIDDigestAlgorithmSHA256 ∧ a.Digest.length = 32 ∧ (f 5).2 = none ∧
        a.Digest = (f 5).1 ∧ a.Pkcs.Verify X c = (true, none) :=
  verifyDigestOf_iff X a c f true

/-- … and of "(false, nil)" (the only answer that lets the loop go on): all four checks pass and the PKCS#7 answers
    `(false, nil)` — no signer entry that names the certificate is accepted -/
theorem verifyDigestOf_false_iff (X : pkcs7.Ext) (a : authenticode.Authenticode) (c : X509Cert)
    (f : crypto.Hash → List UInt8 × GoErr) :
    verifyDigestOf X a c f = (false, none) ↔
      a.Algid.Algorithm = pkcs7.OIDDigestAlgorithmSHA256 ∧ a.Digest.length = 32 ∧ (f 5).2 = none ∧
        a.Digest = (f 5).1 ∧ a.Pkcs.Verify X c = (false, none) :=
  verifyDigestOf_iff X a c f false

/-- **the exported `(*Authenticode).Verify(cert, img)`** (translated as well; `PECOFFBinary.Verify` does not call it): the
    same five checks against the SHA-256 of everything `img` delivers; `img` is read to the end exactly when the first
    two checks pass, and left untouched otherwise -/
theorem C03g_authenticode_verify (X : authenticode.Ext) (a : authenticode.Authenticode) (c : X509Cert) (img : List UInt8) :
    authenticode.Authenticode.Verify X a c img =
      if a.Algid.Algorithm ≠ pkcs7.OIDDigestAlgorithmSHA256 then (img, false, some "errors.New")
      else if a.Digest.length ≠ 32 then (img, false, some "errors.New")
      else if X.crypto_Hash_Sum 5 img ≠ a.Digest then ([], false, some "errors.New")
      else ([], a.Pkcs.Verify X.pkcs7 c) := by
  unfold authenticode.Authenticode.Verify
  rw [C03g_verifyDigest]
  unfold authenticode.Authenticode.Verify.imageDigest1
  simp only [List.nil_append, Option.isSome_none, Bool.false_eq_true, if_false]

/-! #### the loop -/

/-- the loop with the map threaded through it: the entries are asked in table order, every parsed entry is handed, with
    the certificate, THE SAME closure and the map as the previous entries left it -/
def verifyFrom (X : authenticode.Ext) (p : authenticode.PECOFFBinary) (cert : X509Cert) :
    List signature.WINCertificate → Memo → Bool × GoErr
  | [], _ => (false, some "ErrNoValidSignatures")
  | w :: ws, m =>
    let a := X.ParseAuthenticode w.Certificate
    if a.2.isSome then (false, some "fmt.Errorf")
    else
      let v := authenticode.Authenticode.verifyDigest X.pkcs7 a.1 cert Memo
        (authenticode.PECOFFBinary.Verify.imageDigest X p) m
      if v.2.2.isSome then (false, v.2.2)
      else if v.2.1 then (true, none)
      else verifyFrom X p cert ws v.1

theorem verify_loop (X : authenticode.Ext) (p : authenticode.PECOFFBinary) (cert : X509Cert) :
    ∀ (ws : List signature.WINCertificate) (m : Memo),
    (match authenticode.PECOFFBinary.Verify.loop1 X p cert ws m with
      | Loop.ret r => r
      | Loop.done _ => (false, some "ErrNoValidSignatures")) = verifyFrom X p cert ws m := by
  intro ws
  induction ws with
  | nil => intro m; rfl
  | cons w ws ih =>
    intro m
    unfold authenticode.PECOFFBinary.Verify.loop1 verifyFrom
    simp only []
    -- the entry does not parse, or `verifyDigest` answers `(false, nil)`, `true`, or an error
    rcases X.ParseAuthenticode w.Certificate with ⟨a, _ | e⟩
    · rcases authenticode.Authenticode.verifyDigest X.pkcs7 a cert Memo
        (authenticode.PECOFFBinary.Verify.imageDigest X p) m with ⟨m', ok, _ | e⟩
      · cases ok
        · exact ih m'
        · rfl
      · rfl
    · rfl

/-- **`Verify cert`, with the map threaded** (the shape of the source):
    * an error of `Signatures()` → `(false, error)`;
    * no entries → `(false, ErrNoSignatures)`;
    * otherwise `verifyFrom` over the listed entries, started with the EMPTY map: the first entry that does not answer
      "(false, nil)" decides — an entry that does not parse ends the loop with an error (entries behind it are not looked
      at), an error of `verifyDigest` is returned as it is, `true` is success; when every entry answers `(false, nil)`
      the result is `(false, ErrNoValidSignatures)`.  The map lives in this call only; the receiver is not written
      (`C03g_frame`). -/
theorem C03g_verify_threaded (fuel : Nat) (X : authenticode.Ext) (p : authenticode.PECOFFBinary) (cert : X509Cert) :
    authenticode.PECOFFBinary.Verify fuel X p cert =
      match p.Signatures fuel with
      | (_, some _) => (false, some "fmt.Errorf")
      | ([], none) => (false, some "ErrNoSignatures")
      | (ws, none) => verifyFrom X p cert ws [] := by
  unfold authenticode.PECOFFBinary.Verify
  rcases p.Signatures fuel with ⟨ws, _ | e⟩
  · cases ws with
    | nil => rfl
    | cons w ws =>
      have hne : (lenI (w :: ws) == (0 : Int)) = false :=
        beq_eq_false_iff_ne.mpr (Int.natCast_ne_zero.mpr (Nat.succ_ne_zero _))
      simp only [Option.isSome_none, Bool.false_eq_true, if_false, hne]
      exact verify_loop X p cert (w :: ws) []
  · rfl

/-- what one table entry says when it is verified against the digest function `f`: `some verdict` ends the loop, `none`
    ("parsed, verified without error, not signed by this certificate") lets it go on -/
def entryVerdict (X : authenticode.Ext) (f : crypto.Hash → List UInt8 × GoErr) (cert : X509Cert)
    (w : signature.WINCertificate) : Option (Bool × GoErr) :=
  let a := X.ParseAuthenticode w.Certificate
  if a.2.isSome then some (false, some "fmt.Errorf")        -- does not parse: an error, the later entries are not looked at
  else
    let v := verifyDigestOf X.pkcs7 a.1 cert f
    if v.2.isSome then some (false, v.2)                      -- `verifyDigest` of the entry reports an error: that error
    else if v.1 then some (true, none)                        -- verified
    else none                                                 -- `(false, nil)`: next entry

/-- from any map that satisfies the invariant, the threaded loop is "the first entry that does not answer (false, nil)
    decides", every entry verified against THE SAME UNMEMOISED digest function -/
theorem verifyFrom_eq (X : authenticode.Ext) (p : authenticode.PECOFFBinary) (cert : X509Cert) :
    ∀ (ws : List signature.WINCertificate) (m : Memo), MemoOk X p m →
    verifyFrom X p cert ws m =
      (ws.findSome? (entryVerdict X (imageDigest X p) cert)).getD (false, some "ErrNoValidSignatures") := by
  intro ws
  induction ws with
  | nil => intro m _; rfl
  | cons w ws ih =>
    intro m hm
    unfold verifyFrom
    simp only [List.findSome?_cons, entryVerdict]
    rcases X.ParseAuthenticode w.Certificate with ⟨a, _ | e⟩
    · -- the closure keeps the invariant and answers as the unmemoised function: so does `verifyDigest` with it
      obtain ⟨hm', hv⟩ := C03g_verifyDigest_callsOnly X.pkcs7 a cert Memo _ _ (MemoOk X p) m hm
        (C03g_imageDigest_memo X p)
      rw [← hv]
      generalize authenticode.Authenticode.verifyDigest X.pkcs7 a cert Memo
        (authenticode.PECOFFBinary.Verify.imageDigest X p) m = v at hm' ⊢
      rcases v with ⟨m', ok, _ | e⟩
      · cases ok
        · exact ih m' hm'
        · rfl
      · rfl
    · rfl

/-- **`Verify cert` in terms of the unmemoised digest function** — for every receiver and EVERY value of the externals
    (no hypothesis):
    * an error of `Signatures()` → `(false, error)`;
    * no entries → `(false, ErrNoSignatures)`;
    * otherwise the entries are asked in table order and THE FIRST ENTRY THAT DOES NOT ANSWER "(false, nil)" DECIDES
      (`entryVerdict`), EVERY ENTRY BEING VERIFIED — by the five checks of `verifyDigestOf` — AGAINST THE SAME DIGEST
      FUNCTION `imageDigest X p`: the digest, under the algorithm asked for, of the bytes of
      `makeSectionReader(p.hashContent)`.  That the library computes that digest once and keeps it in a map cannot be
      observed in the result (`C03g_imageDigest_memo`, `C03g_verifyDigest_callsOnly`). -/
theorem C03g_verify (fuel : Nat) (X : authenticode.Ext) (p : authenticode.PECOFFBinary) (cert : X509Cert) :
    authenticode.PECOFFBinary.Verify fuel X p cert =
      match p.Signatures fuel with
      | (_, some _) => (false, some "fmt.Errorf")
      | ([], none) => (false, some "ErrNoSignatures")
      | (ws, none) => (ws.findSome? (entryVerdict X (imageDigest X p) cert)).getD
          (false, some "ErrNoValidSignatures") := by
  rw [C03g_verify_threaded]
  rcases p.Signatures fuel with ⟨ws, _ | e⟩
  · cases ws with
    | nil => rfl
    | cons w ws => exact verifyFrom_eq X p cert (w :: ws) [] (memoOk_nil X p)
  · rfl

/-- an entry answers `(b, nil)` — `(true, nil)` ends the loop with success, `(false, nil)` lets it go on — exactly when it
    parses and `verifyDigestOf` answers `(b, nil)` -/
theorem entryVerdict_iff (X : authenticode.Ext) (f : crypto.Hash → List UInt8 × GoErr) (cert : X509Cert)
    (w : signature.WINCertificate) (b : Bool) :
    entryVerdict X f cert w = (bif b then some (true, none) else none) ↔
      (X.ParseAuthenticode w.Certificate).2 = none ∧
        verifyDigestOf X.pkcs7 (X.ParseAuthenticode w.Certificate).1 cert f = (b, none) := by
  unfold entryVerdict
  simp only []
  rcases X.ParseAuthenticode w.Certificate with ⟨a, _ | e⟩
  · rcases verifyDigestOf X.pkcs7 a cert f with ⟨ok, _ | e⟩
    · cases ok <;> cases b <;> simp
    · cases b <;> simp
  · cases b <;> simp

theorem entryVerdict_imageDigest_iff (X : authenticode.Ext) (p : authenticode.PECOFFBinary) (cert : X509Cert)
    (w : signature.WINCertificate) (b : Bool) :
    entryVerdict X (imageDigest X p) cert w = (bif b then some (true, none) else none) ↔
      (X.ParseAuthenticode w.Certificate).2 = none ∧
      (X.ParseAuthenticode w.Certificate).1.Algid.Algorithm = pkcs7.OIDDigestAlgorithmSHA256 ∧
      (X.ParseAuthenticode w.Certificate).1.Digest.length = 32 ∧
      (X.ParseAuthenticode w.Certificate).1.Digest = X.crypto_Hash_Sum 5 (X.makeSectionReader p.hashContent).content ∧
      (X.ParseAuthenticode w.Certificate).1.Pkcs.Verify X.pkcs7 cert = (b, none) := by
  rw [entryVerdict_iff, verifyDigestOf_iff]
  simp only [imageDigest, true_and]

/-- an entry lets the loop go on exactly when it parses, names SHA-256, carries the 32-byte SHA-256 digest of the image's
    hash stream, and its PKCS#7 answers `(false, nil)` for the certificate -/
theorem entryVerdict_none_iff (X : authenticode.Ext) (p : authenticode.PECOFFBinary) (cert : X509Cert)
    (w : signature.WINCertificate) :
    entryVerdict X (imageDigest X p) cert w = none ↔
      (X.ParseAuthenticode w.Certificate).2 = none ∧
      (X.ParseAuthenticode w.Certificate).1.Algid.Algorithm = pkcs7.OIDDigestAlgorithmSHA256 ∧
      (X.ParseAuthenticode w.Certificate).1.Digest.length = 32 ∧
      (X.ParseAuthenticode w.Certificate).1.Digest = X.crypto_Hash_Sum 5 (X.makeSectionReader p.hashContent).content ∧
      (X.ParseAuthenticode w.Certificate).1.Pkcs.Verify X.pkcs7 cert = (false, none) :=
  entryVerdict_imageDigest_iff X p cert w false

/-- **the first entry with a verdict decides**: entries that answer `(false, nil)`, then one whose verdict is `v` -/
theorem verify_eq_of_findSome (fuel : Nat) (X : authenticode.Ext) (p : authenticode.PECOFFBinary) (cert : X509Cert)
    {pre post : List signature.WINCertificate} {w : signature.WINCertificate} {v : Bool × GoErr}
    (hs : p.Signatures fuel = (pre ++ w :: post, none))
    (hpre : ∀ x ∈ pre, entryVerdict X (imageDigest X p) cert x = none)
    (hw : entryVerdict X (imageDigest X p) cert w = some v) :
    authenticode.PECOFFBinary.Verify fuel X p cert = v := by
  have hf := List.findSome?_eq_some_iff.mpr ⟨pre, w, post, rfl, hw, hpre⟩
  rw [C03g_verify, hs]
  -- the list is not empty, whichever of `pre` and `w` is its head
  cases pre with
  | nil => exact congrArg (Option.getD · _) hf
  | cons _ _ => exact congrArg (Option.getD · _) hf

/-- **success, spelled out**: `Verify` returns `(true, nil)` exactly when `Signatures()` succeeds and some entry `w` of
    the table
    * parses as Authenticode,
    * names SHA-256 as its digest algorithm,
    * carries a 32-byte digest that IS the SHA-256 (the digest external under `crypto.SHA256`) of the image's hash stream
      (the bytes of `makeSectionReader(hashContent)`),
    * and its PKCS#7 verifies under the certificate (`pkcs7.PKCS7.Verify`: `C04g_verify_true_iff`),
    while every entry before it parsed and answered `(false, nil)` (`entryVerdict_none_iff`: the same four facts with a
    PKCS#7 that answers `(false, nil)`) -/
theorem C03g_verify_true_iff (fuel : Nat) (X : authenticode.Ext) (p : authenticode.PECOFFBinary) (cert : X509Cert) :
    authenticode.PECOFFBinary.Verify fuel X p cert = (true, none) ↔
      ∃ ws, p.Signatures fuel = (ws, none) ∧ ∃ pre w post, ws = pre ++ w :: post ∧
        (∀ x ∈ pre, entryVerdict X (imageDigest X p) cert x = none) ∧
        (X.ParseAuthenticode w.Certificate).2 = none ∧
        (X.ParseAuthenticode w.Certificate).1.Algid.Algorithm = pkcs7.OIDDigestAlgorithmSHA256 ∧
        (X.ParseAuthenticode w.Certificate).1.Digest.length = 32 ∧
        (X.ParseAuthenticode w.Certificate).1.Digest =
          X.crypto_Hash_Sum 5 (X.makeSectionReader p.hashContent).content ∧
        (X.ParseAuthenticode w.Certificate).1.Pkcs.Verify X.pkcs7 cert = (true, none) := by
  constructor
  · intro h
    rw [C03g_verify] at h
    rcases hs : p.Signatures fuel with ⟨ws, _ | e⟩
    · refine ⟨ws, rfl, ?_⟩
      rw [hs] at h
      -- neither error value of `Verify` is `(true, nil)`: an entry gave the verdict
      have hf : ws.findSome? (entryVerdict X (imageDigest X p) cert) = some (true, none) := by
        cases ws with
        | nil => cases h
        | cons w ws =>
          rcases Option.getD_eq_iff.mp h with h | h
          · exact h
          · cases h.2
      obtain ⟨pre, w, post, hws, hw, hpre⟩ := List.findSome?_eq_some_iff.mp hf
      exact ⟨pre, w, post, hws, hpre, (entryVerdict_imageDigest_iff X p cert w true).mp hw⟩
    · rw [hs] at h; cases h
  · rintro ⟨_, hs, pre, w, post, rfl, hpre, hw⟩
    exact verify_eq_of_findSome fuel X p cert hs hpre ((entryVerdict_imageDigest_iff X p cert w true).mpr hw)

/-- an entry that does not parse ends the loop with an error when every entry before it answered `(false, nil)` —
    whatever stands behind it -/
theorem C03g_verify_unparsable_entry (fuel : Nat) (X : authenticode.Ext) (p : authenticode.PECOFFBinary)
    (cert : X509Cert) (pre post : List signature.WINCertificate) (w : signature.WINCertificate)
    (hs : p.Signatures fuel = (pre ++ w :: post, none))
    (hpre : ∀ x ∈ pre, entryVerdict X (imageDigest X p) cert x = none)
    (hw : (X.ParseAuthenticode w.Certificate).2.isSome) :
    authenticode.PECOFFBinary.Verify fuel X p cert = (false, some "fmt.Errorf") :=
  verify_eq_of_findSome fuel X p cert hs hpre (by unfold entryVerdict; simp only [hw, if_true])

/-- … in particular the very first entry: if it does not parse, `Verify` fails -/
theorem C03g_verify_first_unparsable (fuel : Nat) (X : authenticode.Ext) (p : authenticode.PECOFFBinary)
    (cert : X509Cert) (w : signature.WINCertificate) (post : List signature.WINCertificate)
    (hs : p.Signatures fuel = (w :: post, none)) (hw : (X.ParseAuthenticode w.Certificate).2.isSome) :
    authenticode.PECOFFBinary.Verify fuel X p cert = (false, some "fmt.Errorf") :=
  C03g_verify_unparsable_entry fuel X p cert [] post w hs (fun _ h => nomatch h) hw

/-- how a `(Bool, error)` result is read by the model -/
def outcomeOf (r : Bool × GoErr) : Outcome Bool := if r.2.isSome then .err else .ok r.1

@[simp] theorem outcomeOf_ok (b : Bool) : outcomeOf (b, none) = .ok b := rfl
@[simp] theorem outcomeOf_err (b : Bool) (e : String) : outcomeOf (b, some e) = .err := rfl

/-- the generated constant is the model's object identifier -/
theorem oidSha256_eq : pkcs7.OIDDigestAlgorithmSHA256 = Impl.oidSha256.map Int.ofNat := by decide

/-- **the translated `verifyDigest` is the model's `Auth.verify`** on a parsed value that carries the model's fields: the
    same object identifier, the same embedded digest, and a PKCS#7 whose translated `Verify` gives the model's outcome —
    when the digest external under `crypto.SHA256` is the model's SHA-256 and the bytes of
    `makeSectionReader(hashContent)` are the model's hash stream.  Stated of `verifyDigestOf` on the unmemoised digest
    function, which is what the translated function answers inside `Verify` (`C03g_verifyDigest_callsOnly`,
    `C03g_imageDigest_memo`) -/
theorem C03g_verifyDigest_model (X : authenticode.Ext) (p : authenticode.PECOFFBinary) (cert : X509Cert)
    (C : Crypto) (c : Cert) (parts : List Impl.Part) (regular : Bool) (a : Impl.Auth) (ga : authenticode.Authenticode)
    (hstream : (X.makeSectionReader p.hashContent).content = Impl.hashStream (absP p parts regular))
    (hsha : ∀ bs, X.crypto_Hash_Sum 5 bs = C.sha256 bs)
    (halg : ga.Algid.Algorithm = a.alg.map Int.ofNat)
    (hdig : ga.Digest = a.digest)
    (hpk : outcomeOf (ga.Pkcs.Verify X.pkcs7 cert) = a.pkcs.verify C c) :
    outcomeOf (verifyDigestOf X.pkcs7 ga cert (imageDigest X p)) =
      a.verify C c (Impl.hashStream (absP p parts regular)) := by
  have hinj : (List.map Int.ofNat a.alg = List.map Int.ofNat Impl.oidSha256) ↔ a.alg = Impl.oidSha256 :=
    List.map_inj_right (fun x y h => Int.ofNat.inj h)
  unfold verifyDigestOf Impl.Auth.verify imageDigest
  rw [hstream, hsha, halg, hdig, oidSha256_eq]
  -- `outcomeOf` of the chain, check by check: an error is `.err`, the last answer is the model's (`hpk`)
  simp only [apply_ite outcomeOf, outcomeOf_err, hpk, hinj, Option.isSome_none, Bool.false_eq_true, if_false, ne_eq,
    bne_iff_ne]

/-- the loop against the model's `Impl.verifySigs`, for any digest function `f` and any stream: when an entry body that
    the model does not parse does not parse in the translation, and one that it parses does, `verifyDigestOf` of the
    parsed value having the outcome of the model's `Auth.verify` -/
theorem verdicts_model (X : authenticode.Ext) (f : crypto.Hash → List UInt8 × GoErr) (cert : X509Cert) (C : Crypto)
    (certsOk : Bytes → Bool) (c : Cert) (stream : Bytes)
    (hnone : ∀ b, Impl.parseAuthenticode certsOk b = none → (X.ParseAuthenticode b).2.isSome)
    (hsome : ∀ b a, Impl.parseAuthenticode certsOk b = some a → (X.ParseAuthenticode b).2 = none ∧
      outcomeOf (verifyDigestOf X.pkcs7 (X.ParseAuthenticode b).1 cert f) = a.verify C c stream)
    (gws : List signature.WINCertificate) :
    outcomeOf ((gws.findSome? (entryVerdict X f cert)).getD (false, some "ErrNoValidSignatures")) =
      Impl.verifySigs C certsOk c stream (gws.map absWC) := by
  induction gws with
  | nil => rfl
  | cons w ws ih =>
    rw [List.findSome?_cons, List.map_cons]
    unfold Impl.verifySigs
    rw [show (absWC w).cert = w.Certificate from rfl]
    cases hm : Impl.parseAuthenticode certsOk w.Certificate with
    | none => simp only [entryVerdict, hnone _ hm, ↓reduceIte, Option.getD_some, outcomeOf_err]
    | some a =>
      obtain ⟨hp, hv⟩ := hsome _ a hm
      simp only [entryVerdict, hp, Option.isSome_none, Bool.false_eq_true, ↓reduceIte, ← hv]
      -- the three answers of `verifyDigestOf`: `(false, nil)`, `(true, nil)`, an error
      rcases verifyDigestOf X.pkcs7 (X.ParseAuthenticode w.Certificate).1 cert f with ⟨ok, _ | e⟩
      · cases ok
        · simpa using ih
        · simp
      · simp

/-- **refinement of the loop**: when
    * the bytes of `makeSectionReader(hashContent)` are the model's hash stream and the digest external under
      `crypto.SHA256` is the model's SHA-256,
    * `ParseAuthenticode` answers as the model's `parseAuthenticode` does — an entry body parses in the translation
      exactly when it does in the model, and the parsed value carries the model's object identifier and embedded digest
      and a PKCS#7 whose translated `Verify` (with pkcs7's external `signerinfo.verify`) gives the model's outcome —
    the translated `Verify` — loop, closure, memo map, `verifyDigest` — is the model's `Impl.Parsed.verify`
    (Model/Authenticode.lean, about which `C02_sound … C02_refines_spec` are proved), for any fuel above the table length -/
theorem C03g_verify_refines (fuel : Nat) (X : authenticode.Ext) (p : authenticode.PECOFFBinary) (cert : X509Cert)
    (C : Crypto) (certsOk : Bytes → Bool) (c : Cert) (parts : List Impl.Part) (regular : Bool)
    (hf : p.certTable.length < fuel)
    (hstream : (X.makeSectionReader p.hashContent).content = Impl.hashStream (absP p parts regular))
    (hsha : ∀ bs, X.crypto_Hash_Sum 5 bs = C.sha256 bs)
    (hparse : ∀ b : List UInt8,
      match Impl.parseAuthenticode certsOk b with
      | none => (X.ParseAuthenticode b).2.isSome
      | some a => (X.ParseAuthenticode b).2 = none ∧
          (X.ParseAuthenticode b).1.Algid.Algorithm = a.alg.map Int.ofNat ∧
          (X.ParseAuthenticode b).1.Digest = a.digest ∧
          outcomeOf ((X.ParseAuthenticode b).1.Pkcs.Verify X.pkcs7 cert) = a.pkcs.verify C c) :
    outcomeOf (authenticode.PECOFFBinary.Verify fuel X p cert) = (absP p parts regular).verify C certsOk c := by
  have hloop := verdicts_model X (imageDigest X p) cert C certsOk c (Impl.hashStream (absP p parts regular))
    (fun b hb => by have h := hparse b; rw [hb] at h; exact h)
    (fun b a hb => by
      have h := hparse b
      rw [hb] at h
      exact ⟨h.1, C03g_verifyDigest_model X p cert C c parts regular a _ hstream hsha h.2.1 h.2.2.1 h.2.2.2⟩)
  have hsig := signatures_model fuel p parts regular hf
  rw [C03g_verify]
  unfold Impl.Parsed.verify
  rcases hs : p.Signatures fuel with ⟨gws, _ | e⟩
  · rw [hs] at hsig
    rw [hsig]
    cases gws with
    | nil => rfl
    | cons w gws => exact hloop (w :: gws)
  · rw [hs] at hsig
    rw [hsig.1]
    rfl

/-! ### `Bytes()` / `Open()` -/

/-- **`Bytes()` and `Open()`** (readers that do not fail): the bytes of `firstSection`, the 8 bytes of `optDataDir`, the
    bytes of `lastSection`, the padding, the certificate table — in this order, nothing else -/
theorem C03g_bytes (p : authenticode.PECOFFBinary) :
    p.Bytes = p.firstSection.content ++ p.optDataDir.content ++ p.lastSection.content ++ p.padding ++ p.certTable ∧
    p.Open = p.Bytes := by
  unfold authenticode.PECOFFBinary.Bytes authenticode.PECOFFBinary.Open authenticode.copySectionReader
  simp only [List.append_assoc, List.nil_append, and_self]

/-- the certificate table is the tail of `Bytes()` — what the harness observes of the real object -/
theorem C03g_bytes_tail (p : authenticode.PECOFFBinary) :
    p.Bytes.drop (p.Bytes.length - p.certTable.length) = p.certTable := by
  rw [(C03g_bytes p).1, List.length_append, Nat.add_sub_cancel, List.drop_left]

/-- refinement: `Bytes()` is the model's `Impl.Parsed.bytes` when the padding bytes are zero (as `Parse` makes them) -/
theorem C03g_bytes_refines (p : authenticode.PECOFFBinary) (parts : List Impl.Part) (regular : Bool)
    (hz : p.padding = zeros p.padding.length) :
    p.Bytes = (absP p parts regular).bytes := by
  rw [(C03g_bytes p).1]
  unfold Impl.Parsed.bytes absP
  simp only
  rw [← hz]

/-- after `AppendSignature`: the file is the old file with the 8 bytes of the directory entry replaced and the new entry
    (with its padding) appended; the prefix up to the entry, the bytes between the entry and the table, and the padding
    are untouched -/
theorem C03g_bytes_after_append (p : authenticode.PECOFFBinary) (sig : List UInt8) :
    (p.AppendSignature sig).1.Bytes =
      p.firstSection.content ++
        (le32 (newDatadir p sig).VirtualAddress.toNat ++ le32 (newDatadir p sig).Size.toNat) ++
        p.lastSection.content ++ p.padding ++ p.certTable ++ newEntryBytes sig := by
  rw [(C03g_bytes _).1, C03g_append]
  simp only [List.append_assoc]

/-! ### non-vacuity: a small concrete receiver -/
section NonVacuity

/-- an unsigned object: empty table, directory entry (0, 0), `length` 352, three bytes of padding -/
def p0 : authenticode.PECOFFBinary :=
  ⟨⟨0, 0⟩, ⟨7⟩, 352, [0, 0, 0], ⟨[0, 0, 0, 0, 0, 0, 0, 0]⟩, [], ⟨[0x4d, 0x5a]⟩, ⟨[9, 9]⟩⟩
/-- the digest that `X0`'s digest external answers for algorithm `alg` on the image's hash input `[0xaa]`: 32 bytes -/
def dig0 (alg : UInt8) : List UInt8 := List.replicate 31 alg ++ [0xaa]
/-- externals: signing yields `[1, 2, 3]`; an entry body parses unless it is empty, as a value that names SHA-256, embeds
    `dig0 5` (the digest of the image under SHA-256: the digest external puts 31 copies of the algorithm in front of the
    bytes, the image's hash input is `[0xaa]`) and holds a PKCS#7 over the entry body with two signer entries, naming
    serial numbers 1 and 2; `signerinfo.verify` accepts iff the content starts with the first byte of the certificate's
    `Raw` -/
def X0 : authenticode.Ext :=
  { pkcs7 := { signerinfo_verify := fun _ c content => (content.head? == c.Raw.head?, none) },
    SignAuthenticode := fun _ _ r _ => (r, [1, 2, 3], none),
    ParseAuthenticode := fun b =>
      (⟨⟨⟨⟩, [⟨1, [], ⟨⟩, ⟨⟨⟩, [], ⟨⟩, [], []⟩, ⟨⟩, ⟨[], 1⟩⟩, ⟨1, [], ⟨⟩, ⟨⟨⟩, [], ⟨⟩, [], []⟩, ⟨⟩, ⟨[], 2⟩⟩], b, [], ⟨⟩⟩,
        ⟨pkcs7.OIDDigestAlgorithmSHA256, ⟨⟩⟩, dig0 5⟩, if b.isEmpty then some "parse" else none),
    makeSectionReader := fun _ => ⟨[0xaa]⟩,
    crypto_Hash_Sum := fun alg bs => List.replicate 31 alg.toUInt8 ++ bs }
def certA : X509Cert := ⟨[1], [], [], 1⟩
def certB : X509Cert := ⟨[5], [], [], 2⟩

example : (p0.AppendSignature [1, 2, 3]).1.certTable = [11, 0, 0, 0, 0, 2, 2, 0, 1, 2, 3, 0, 0, 0, 0, 0] ∧
    (p0.AppendSignature [1, 2, 3]).1.Datadir = ⟨352, 16⟩ ∧
    (p0.AppendSignature [1, 2, 3]).1.optDataDir = ⟨[0x60, 1, 0, 0, 16, 0, 0, 0]⟩ ∧
    (p0.AppendSignature [1, 2, 3]).2 = none := by decide +kernel
/-- a second signature: the address is kept, the size grows to 40 -/
example : ((p0.AppendSignature [1, 2, 3]).1.AppendSignature [5, 6, 7, 8, 9, 10, 11, 12, 13]).1.Datadir = ⟨352, 40⟩ ∧
    (((p0.AppendSignature [1, 2, 3]).1.AppendSignature [5, 6, 7, 8, 9, 10, 11, 12, 13]).1.Signatures 41).1.map
      (fun w => (w.Length, w.Certificate)) = [(11, [1, 2, 3]), (17, [5, 6, 7, 8, 9, 10, 11, 12, 13])] := by
  decide +kernel
example : (authenticode.PECOFFBinary.Sign X0 p0 ⟨0⟩ certA).1 = (p0.AppendSignature [1, 2, 3]).1 :=
  C03g_sign_ok X0 p0 ⟨0⟩ certA (by decide +kernel)
example : (authenticode.PECOFFBinary.Sign X0 p0 ⟨0⟩ certA).1.Bytes =
    [0x4d, 0x5a, 0x60, 1, 0, 0, 16, 0, 0, 0, 9, 9, 0, 0, 0, 11, 0, 0, 0, 0, 2, 2, 0, 1, 2, 3, 0, 0, 0, 0, 0] := by
  decide +kernel
/-- the closure: the first call hashes and stores, the second answers from the map and leaves it as it is; another
    algorithm gets its own entry -/
example : authenticode.PECOFFBinary.Verify.imageDigest X0 p0 [] 5 = ([(5, dig0 5)], dig0 5, none) ∧
    authenticode.PECOFFBinary.Verify.imageDigest X0 p0 [(5, dig0 5)] 5 = ([(5, dig0 5)], dig0 5, none) ∧
    authenticode.PECOFFBinary.Verify.imageDigest X0 p0 [(5, dig0 5)] 7 =
      ([(7, dig0 7), (5, dig0 5)], dig0 7, none) ∧
    imageDigest X0 p0 5 = (dig0 5, none) := by decide +kernel
/-- a map that does NOT satisfy the invariant is answered from (why `MemoOk` is a hypothesis of `C03g_imageDigest_memo`;
    `Verify` starts from the empty map) -/
example : (authenticode.PECOFFBinary.Verify.imageDigest X0 p0 [(5, [0])] 5).2 = ([0], none) := by decide +kernel
/-- two entries, neither by B: the map the second entry is handed holds the digest that the first one asked for -/
example : verifyFrom X0 p0 certB [newEntry [1, 2, 3], newEntry [1]] [] =
      verifyFrom X0 p0 certB [newEntry [1]] [(5, dig0 5)] ∧
    verifyFrom X0 p0 certB [newEntry [1, 2, 3], newEntry [1]] [] = (false, some "ErrNoValidSignatures") := by
  decide +kernel
/-! the five cases of `verifyDigest` on the closure of `p0` (`C03g_verifyDigest`), the map it leaves in front: another
    algorithm and a digest of the wrong length leave the map EMPTY (the closure is not called); a wrong digest and the
    two PKCS#7 verdicts leave the digest under SHA-256 in it -/
def a0 : authenticode.Authenticode := (X0.ParseAuthenticode [1, 2, 3]).1
def vd0 (a : authenticode.Authenticode) (c : X509Cert) : Memo × Bool × GoErr :=
  authenticode.Authenticode.verifyDigest X0.pkcs7 a c Memo (authenticode.PECOFFBinary.Verify.imageDigest X0 p0) []
example : vd0 ⟨a0.Pkcs, ⟨[1, 2], ⟨⟩⟩, a0.Digest⟩ certA = ([], false, some "errors.New") := by decide +kernel
example : vd0 ⟨a0.Pkcs, a0.Algid, [5, 0xaa]⟩ certA = ([], false, some "errors.New") := by decide +kernel
example : vd0 ⟨a0.Pkcs, a0.Algid, dig0 4⟩ certA = ([(5, dig0 5)], false, some "errors.New") := by decide +kernel
example : vd0 a0 certA = ([(5, dig0 5)], true, none) := by decide +kernel
example : vd0 a0 certB = ([(5, dig0 5)], false, none) := by decide +kernel
/-- the exported `(*Authenticode).Verify` on a reader that delivers the hash input / something else -/
example : authenticode.Authenticode.Verify X0 (X0.ParseAuthenticode [1, 2, 3]).1 certA [0xaa] = ([], true, none) ∧
    authenticode.Authenticode.Verify X0 (X0.ParseAuthenticode [1, 2, 3]).1 certA [0xab] =
      ([], false, some "errors.New") := by decide +kernel
/-- `Verify`: no signatures; signed by A; the second of two entries decides for B; a failed signing changes nothing -/
example : authenticode.PECOFFBinary.Verify 1 X0 p0 certA = (false, some "ErrNoSignatures") := by decide +kernel
example : authenticode.PECOFFBinary.Verify 17 X0 (p0.AppendSignature [1, 2, 3]).1 certA = (true, none) ∧
    authenticode.PECOFFBinary.Verify 17 X0 (p0.AppendSignature [1, 2, 3]).1 certB =
      (false, some "ErrNoValidSignatures") := by decide +kernel
example : authenticode.PECOFFBinary.Verify 41 X0
    ((p0.AppendSignature [1, 2, 3]).1.AppendSignature [5, 6, 7, 8, 9, 10, 11, 12, 13]).1 certB = (true, none) := by
  decide +kernel
example : (authenticode.PECOFFBinary.Sign { X0 with SignAuthenticode := fun _ _ r _ => (r, [], some "hsm") } p0 ⟨0⟩ certA)
    = (p0, [], some "fmt.Errorf") := by decide +kernel
/-- the hypotheses of `C03g_append_then_signatures` hold for `p0` and for the signed `p0` -/
example := C03g_append_then_signatures p0 [1, 2, 3] [] 1 17 (by decide +kernel) (by decide +kernel) (by decide)
  (by decide) (by decide +kernel)
example := C03g_append_then_signatures (p0.AppendSignature [1, 2, 3]).1 [5, 6, 7, 8, 9, 10, 11, 12, 13]
  [newEntry [1, 2, 3]] 17 41 (by decide +kernel) (by decide +kernel) (by decide) (by decide) (by decide +kernel)

/-! #### how the library behaves outside the hypotheses of `C03g_append_then_signatures` (a–c) and of
`C03g_append_no_overflow` (d), and on a table with an entry that does not parse (e)

(a) AN EMPTY SIGNATURE is written as an 8-byte entry that `Signatures()` does not list (it stops at 8 bytes). -/
example : ((p0.AppendSignature []).1.Signatures 9) = ([], none) ∧
    (p0.AppendSignature []).1.certTable = [8, 0, 0, 0, 0, 2, 2, 0] := by decide +kernel
/-- (b) A TABLE THAT IS NOT 8-ALIGNED (its last entry lacks its padding: 11 bytes).  `Signatures()` lists the entry and
    is at the end.  `AppendSignature` does not re-align: the new entry starts at offset 11, `Signatures()` then skips
    the 5 padding bytes that the OLD entry should have had — which are the first 5 bytes of the NEW entry — and reads a
    header out of the middle of it: an error here (in general: garbage).  `Datadir.Size` still is the length of the
    table (11 + 16 = 27), which is no longer a multiple of 8: `Parse` refuses what `Bytes()` then returns. -/
def pCut : authenticode.PECOFFBinary := { p0 with Datadir := ⟨352, 11⟩, certTable := [11, 0, 0, 0, 0, 2, 2, 0, 1, 2, 3] }
example : (pCut.Signatures 12).1.map (fun w => w.Certificate) = [[1, 2, 3]] ∧ (pCut.Signatures 12).2 = none ∧
    ((pCut.AppendSignature [4, 5, 6]).1.Signatures 28) = ([], some "%w:ErrParse") ∧
    (pCut.AppendSignature [4, 5, 6]).1.Datadir = ⟨352, 27⟩ := by decide +kernel
/-- (c) EIGHT BYTES LEFT OVER at the end of an aligned table (here: an entry with an empty body, which the walk does not
    list) become the header of an entry as soon as something is appended -/
def pTail : authenticode.PECOFFBinary := { p0 with Datadir := ⟨352, 8⟩, certTable := [8, 0, 0, 0, 0, 2, 2, 0] }
example : (pTail.Signatures 9) = ([], none) ∧
    ((pTail.AppendSignature [1, 2, 3]).1.Signatures 25).1.map (fun w => w.Certificate) = [[], [1, 2, 3]] := by
  decide +kernel
/-- (d) `uint32` WRAP-AROUND of the directory size: nothing checks it.  With `Size = 2^32 - 8` the size after appending
    a 16-byte entry is 8. -/
example : (({ p0 with Datadir := ⟨352, 4294967288⟩ } : authenticode.PECOFFBinary).AppendSignature [1, 2, 3]).1.Datadir =
    ⟨352, 8⟩ := by decide +kernel
/-- (e) an unparsable entry in front of a valid one: `Verify` fails although the second entry verifies for A -/
def pTwo : authenticode.PECOFFBinary :=
  { p0 with Datadir := ⟨352, 32⟩,
            certTable := [9, 0, 0, 0, 0, 2, 2, 0, 7, 0, 0, 0, 0, 0, 0, 0] ++ [9, 0, 0, 0, 0, 2, 2, 0, 1, 0, 0, 0, 0, 0, 0, 0] }
example : authenticode.PECOFFBinary.Verify 33 X0 pTwo certA = (true, none) ∧
    authenticode.PECOFFBinary.Verify 33
      { X0 with ParseAuthenticode := fun b => ((X0.ParseAuthenticode b).1, if b == [7] then some "parse" else none) }
      pTwo certA = (false, some "fmt.Errorf") := by decide +kernel

end NonVacuity

end GoUefi.C03

#print axioms GoUefi.C03.C03g_append
#print axioms GoUefi.C03.C03g_append_numbers
#print axioms GoUefi.C03.C03g_append_no_overflow
#print axioms GoUefi.C03.C03g_append_refines
#print axioms GoUefi.C03.C03g_signatures_table
#print axioms GoUefi.C03.C03g_frame
#print axioms GoUefi.C03.C03g_signatures_step
#print axioms GoUefi.C03.C03g_signatures
#print axioms GoUefi.C03.C03g_signatures_model_returns
#print axioms GoUefi.C03.C03g_signatures_fuel
#print axioms GoUefi.C03.C03g_append_then_signatures
#print axioms GoUefi.C03.C03g_sign
#print axioms GoUefi.C03.C03g_sign_failed_unchanged
#print axioms GoUefi.C03.C03g_sign_ok
#print axioms GoUefi.C03.C03g_imageDigest_step
#print axioms GoUefi.C03.C03g_imageDigest_memo
#print axioms GoUefi.C03.C03g_verifyDigest
#print axioms GoUefi.C03.C03g_verifyDigest_callsOnly
#print axioms GoUefi.C03.verifyDigestOf_true_iff
#print axioms GoUefi.C03.verifyDigestOf_false_iff
#print axioms GoUefi.C03.entryVerdict_none_iff
#print axioms GoUefi.C03.C03g_authenticode_verify
#print axioms GoUefi.C03.C03g_verify_threaded
#print axioms GoUefi.C03.C03g_verify
#print axioms GoUefi.C03.C03g_verify_true_iff
#print axioms GoUefi.C03.C03g_verify_unparsable_entry
#print axioms GoUefi.C03.C03g_verify_first_unparsable
#print axioms GoUefi.C03.C03g_verify_refines
#print axioms GoUefi.C03.C03g_verifyDigest_model
#print axioms GoUefi.C03.C03g_bytes
#print axioms GoUefi.C03.C03g_bytes_tail
#print axioms GoUefi.C03.C03g_bytes_refines
#print axioms GoUefi.C03.C03g_bytes_after_append

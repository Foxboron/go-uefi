import GoUefi.Properties.C10g
import GoUefi.Properties.C10
/-!
# C10 (generated tie, second part) — encode, then decode, for the translated code

`C10g_decode_encode` is the direction "what the translated reader consumed re-encodes to the input".
Here is the other direction, for the translated code as well: the bytes the translated
`EFIVariableAuthentication2.Marshal` / `WriteEFIVariableAuthencation2` produce for a well-formed
descriptor (`dwLength = 24 + |CertData|`, revision 0x0200, type 0x0EF1 — `Impl.AuthDesc.WF` of its
abstraction), followed by ANY payload, are decoded by the translated `ReadEFIVariableAuthencation2` /
`Unmarshal` to a descriptor with the same fields, and exactly the payload is left.
-/
namespace GoUefi.C10
open GoUefi GoUefi.Gen

theorem C10h_encode_decode (ga : signature.EFIVariableAuthentication2) (rest : List UInt8)
    (h8 : ga.AuthInfo.CertType.Data4.length = 8) (hwf : (absAuth ga).WF) :
    ∃ ga', signature.ReadEFIVariableAuthencation2 (ga.Marshal [] ++ rest) = (rest, ga', none) ∧
      absAuth ga' = absAuth ga := by
  have _ := h8  -- (not needed: `absAuth` is injective whatever the length of `Data4`)
  exact ⟨ga, GenAuthDesc.read_marshal ga rest hwf, rfl⟩

/-- the same through the method `Unmarshal`, whatever receiver it is called on -/
theorem C10h_marshal_unmarshal (e ga : signature.EFIVariableAuthentication2) (rest : List UInt8)
    (h8 : ga.AuthInfo.CertType.Data4.length = 8) (hwf : (absAuth ga).WF) :
    ∃ ga', e.Unmarshal (ga.Marshal [] ++ rest) = (ga', rest, none) ∧ absAuth ga' = absAuth ga := by
  have _ := h8
  refine ⟨ga, ?_, rfl⟩
  simp only [signature.EFIVariableAuthentication2.Unmarshal, GenAuthDesc.read_marshal ga rest hwf,
    Option.isSome_none, Bool.false_eq_true, if_false]

/-- the writer produces 16 + dwLength bytes (all of which the reader consumes: `C10h_encode_decode`) -/
theorem C10h_encoded_length (ga : signature.EFIVariableAuthentication2)
    (h8 : ga.AuthInfo.CertType.Data4.length = 8) (hwf : (absAuth ga).WF) :
    (ga.Marshal []).length = 16 + ga.AuthInfo.Header.Length.toNat := by
  have _ := h8
  rw [GenAuthDesc.marshal_tie, List.nil_append, writeAuth_eq_encAuth _ hwf.2.2.1]
  exact encAuth_length _ ⟨hwf.1, hwf.2.1, hwf.2.2.2.1, hwf.2.2.2.2.1,
    UInt16.toNat_lt _, UInt16.toNat_lt _⟩

/-- non-vacuity: the descriptor decoded from a specification-built encoding meets both hypotheses -/
example : ((signature.ReadEFIVariableAuthencation2
      (Spec.encAuth ⟨zeros 16, 27, 0x0200, 0x0EF1, zeros 16, [1, 2, 3]⟩)).2.1).AuthInfo.CertType.Data4.length = 8 ∧
    (absAuth (signature.ReadEFIVariableAuthencation2
      (Spec.encAuth ⟨zeros 16, 27, 0x0200, 0x0EF1, zeros 16, [1, 2, 3]⟩)).2.1).WF := by
  decide +kernel

end GoUefi.C10

#print axioms GoUefi.C10.C10h_encode_decode
#print axioms GoUefi.C10.C10h_marshal_unmarshal
#print axioms GoUefi.C10.C10h_encoded_length

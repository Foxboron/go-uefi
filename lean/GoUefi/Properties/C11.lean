import GoUefi.Lemmas.VarFs
import GoUefi.Properties.C17
/-!
# C11 — one write, attribute-checked reads

Model: `GoUefi/Model/VarFs.lean` (`writeVar` = `WriteEfivarsWithGuid`, both implementations;
`getVar` = `EFIFS.GetVarWithAttributes`), as programs over the caller-supplied filesystem whose
run against an environment yields the result and the trace of calls.  The runs under an arbitrary
environment and the trace predicates (`OkEnv`, `writeCount`, `openFileCount`, `Call.writeVarMay`,
`Call.isOpenFile`, `Call.isWrite`) are in `GoUefi/Lemmas/VarFs.lean`.
-/
namespace GoUefi.C11
open GoUefi GoUefi.Impl

/-! ### the write path -/

/-- On a healthy filesystem a variable write is: one open of the variable's file, ONE write of the
    4-byte little-endian attribute mask followed by the value, close; nothing else; success. -/
theorem C11_write_trace (dir : String) (name : List Char) (g : Guid) (attrs : Nat) (value : Bytes)
    (env : Nat → Call → Res) (henv : OkEnv env) :
    (writeVar dir name g attrs value).run env 0 =
      (.ok (), [(.openFile (varPath dir name g) (writeFlags attrs) 0o644, .ok),
                (.write (le32 attrs ++ value), .wrote (4 + value.length)),
                (.close, .ok)]) := by
  obtain ⟨ho, hw, hc⟩ := henv
  have hlen : (le32 attrs ++ value).length = 4 + value.length := by simp
  rw [writeVar_run_open dir name g attrs value env (by rw [ho]; simp), ho, hw, hc, hlen,
    writeVarFinish, if_pos ⟨rfl, by simp⟩]

/-- The open flags: access mode write-only (O_WRONLY = 1, not O_RDWR = 2), O_CREATE, append mode
    exactly when the attribute mask carries EFI_VARIABLE_APPEND_WRITE (0x40), and no other bit. -/
theorem C11_flags (attrs : Nat) :
    writeFlags attrs % 4 = 1 ∧ writeFlags attrs / 0x40 % 2 = 1 ∧
    (writeFlags attrs / 0x400 % 2 = 1 ↔ attrs / 0x40 % 2 = 1) ∧
    (writeFlags attrs = 0x41 ∨ writeFlags attrs = 0x441) := by
  rcases writeFlags_cases attrs with ⟨h, e⟩ | ⟨h, e⟩ <;> rw [e] <;> simp [h]

/-- Whatever the filesystem answers (EVERY environment): at most one `write`, exactly one
    `openFile`, every call is one of openFile/write/close, and the only path opened is the
    variable's file — nothing else is touched. -/
theorem C11_any_env_shape (dir : String) (name : List Char) (g : Guid) (attrs : Nat) (value : Bytes)
    (env : Nat → Call → Res) :
    writeCount ((writeVar dir name g attrs value).run env 0).2 ≤ 1 ∧
    openFileCount ((writeVar dir name g attrs value).run env 0).2 = 1 ∧
    (∀ e ∈ ((writeVar dir name g attrs value).run env 0).2,
       e.1.writeVarMay (varPath dir name g) = true) ∧
    (∀ p f m r, (Call.openFile p f m, r) ∈ ((writeVar dir name g attrs value).run env 0).2 →
       p = varPath dir name g ∧ f = writeFlags attrs ∧ m = 0o644) := by
  -- either trace is a concrete list of calls: the counts evaluate, `simp` walks the memberships
  rcases writeVar_run_cases dir name g attrs value env with h | ⟨r0, w, cl, _, _, _, _, h⟩
  · rw [h]
    exact ⟨Nat.zero_le 1, rfl, by simp [Call.writeVarMay], by simp +contextual⟩
  · rw [h]
    exact ⟨Nat.le_refl 1, rfl, by simp [Call.writeVarMay], by simp +contextual⟩

/-- The file of a variable is `<dir>/<name>-<guid>`, the GUID in its canonical text form: 36
    characters, 8-4-4-4-12 lower-case hex digits (C17). -/
theorem C11_path (dir : String) (name : List Char) (g : Guid) :
    varPath dir name g = dir ++ "/" ++ String.ofList name ++ "-" ++ String.ofList g.format ∧
    (g.WF → ∃ a b c d e : List Char, g.format = a ++ '-' :: b ++ '-' :: c ++ '-' :: d ++ '-' :: e ∧
      a.length = 8 ∧ b.length = 4 ∧ c.length = 4 ∧ d.length = 4 ∧ e.length = 12 ∧
      (∀ x ∈ a ++ b ++ c ++ d ++ e, isLowerHex x = true) ∧ g.format.length = 36) :=
  ⟨rfl, C17.C17_format_canonical g⟩

/-! ### the attribute test -/

/-- `Attributes.Equal` is Go's `(required & stored) == required`.  (Only `required` has to fit
    32 bits.) -/
theorem attrsSubset_iff (r s : Nat) (hr : r < 2^32) : attrsSubset r s = true ↔ r &&& s = r :=
  Impl.attrsSubset_iff r s hr

/-! ### the read path -/

/-- Reading a healthy file that holds attributes `a` and bytes `x`, when every required attribute
    is present: the value is decoded from the bytes after the first four and returned together
    with the stored attributes; a decoder failure / crash is passed on as such. -/
theorem C11_read {α} (dir : String) (name : List Char) (g : Guid) (req a : Nat) (x : Bytes)
    (dec : Bytes → Outcome α) (ha : a < 2^32) (hsub : attrsSubset req a = true) :
    ((getVar dir name g req dec).run (fileEnv (some (le32 a ++ x))) 0).1 =
      match dec x with
      | .ok v => .ok (a, v)
      | .err => .err
      | .panic => .panic
      | .exit => .exit := by
  rw [getVar_fileEnv dir name g req dec a x ha, if_pos hsub]
  rfl

/-- A stored mask that lacks a required attribute is an error — independently of the value bytes
    and of the decoder: the value is not decoded (a crashing decoder cannot leak through). -/
theorem C11_read_wrong_attrs {α} (dir : String) (name : List Char) (g : Guid) (req a : Nat)
    (x : Bytes) (ha : a < 2^32) (hsub : attrsSubset req a = false) :
    ∀ dec : Bytes → Outcome α,
      ((getVar dir name g req dec).run (fileEnv (some (le32 a ++ x))) 0).1 = .err := by
  intro dec
  rw [getVar_fileEnv dir name g req dec a x ha, hsub]
  rfl

/-- An absent file, or one too short to hold the attribute mask, is an error. -/
theorem C11_read_short {α} (dir : String) (name : List Char) (g : Guid) (req : Nat)
    (dec : Bytes → Outcome α) (file : Option Bytes)
    (h : file = none ∨ ∃ f, file = some f ∧ f.length < 4) :
    ((getVar dir name g req dec).run (fileEnv file) 0).1 = .err := by
  -- a run that gets past the first read was given four bytes
  rcases getVar_run_cases dir name g req dec (fileEnv file) with he | ⟨sz, ab, h0, _, h2, hab⟩
  · exact he.1
  · rcases h with rfl | ⟨f, rfl, hf⟩
    · exact absurd rfl h0
    · cases h2
      rw [Option.getD_some, List.length_take] at hab
      omega

/-- Reading never opens a file for writing and never writes, whatever the filesystem answers. -/
theorem C11_read_no_write {α} (dir : String) (name : List Char) (g : Guid) (req : Nat)
    (dec : Bytes → Outcome α) (env : Nat → Call → Res) :
    ∀ e ∈ ((getVar dir name g req dec).run env 0).2, e.1.isOpenFile = false ∧ e.1.isWrite = false := by
  -- a finite fact about each of the four lists of calls: evaluated
  have key : ∀ tr : List (Call × Res),
      (tr.map (·.1)).all (fun c => !c.isOpenFile && !c.isWrite) = true →
      ∀ e ∈ tr, e.1.isOpenFile = false ∧ e.1.isWrite = false := fun tr h e he => by
    simpa using List.all_eq_true.1 h e.1 (List.mem_map_of_mem he)
  rcases getVar_run_cases dir name g req dec env with
    ⟨_, h | ⟨_, _, _, h⟩ | ⟨_, _, _, _, h⟩⟩ | ⟨sz, ab, h0, h1, h2, hab⟩
  · rw [h]; exact key _ rfl
  · rw [h]; exact key _ rfl
  · rw [h]; exact key _ rfl
  · rw [getVar_run_full dir name g req dec env sz ab h0 h1 h2 hab]; exact key _ rfl

/-! ### non-vacuity: concrete values -/

/-- a healthy environment exists (`fileEnv` of anything is one) -/
example : OkEnv (fileEnv none) := ⟨fun _ _ _ _ => rfl, fun _ _ => rfl, fun _ => rfl⟩
/-- a concrete write: NV+BS+RT (7), two value bytes -/
example : (writeVar "/sys/firmware/efi/efivars" "db".toList ⟨1, 2, 3, zeros 8⟩ 7 [0xAA, 0xBB]).run (fileEnv none) 0 =
    (.ok (), [(.openFile "/sys/firmware/efi/efivars/db-00000001-0002-0003-0000-000000000000" 0x41 0o644, .ok),
              (.write [7, 0, 0, 0, 0xAA, 0xBB], .wrote 6), (.close, .ok)]) := by decide +kernel
/-- append-write (0x47) opens in append mode, 0x27 does not -/
example : writeFlags 0x47 = 0x441 ∧ writeFlags 0x27 = 0x41 := by decide +kernel
/-- the subset test: 0x07 ⊆ 0x27 but 0x47 ⊄ 0x27 -/
example : attrsSubset 0x07 0x27 = true ∧ attrsSubset 0x47 0x27 = false ∧ (0x07 &&& 0x27 = 0x07) := by decide +kernel
/-- a concrete read with the identity decoder -/
example : ((getVar "d" ['x'] Guid.zero 0x07 (fun b => Outcome.ok b)).run (fileEnv (some (le32 0x27 ++ [1, 2, 3]))) 0).1 =
    .ok (0x27, [1, 2, 3]) := by decide +kernel
/-- wrong attributes: error even though the decoder would panic -/
example : ((getVar "d" ['x'] Guid.zero 0x47 (fun _ => (Outcome.panic : Outcome Bytes))).run
    (fileEnv (some (le32 0x27 ++ [1, 2, 3]))) 0).1 = .err := by decide +kernel
/-- right attributes: that decoder's panic is passed on -/
example : ((getVar "d" ['x'] Guid.zero 0x07 (fun _ => (Outcome.panic : Outcome Bytes))).run
    (fileEnv (some (le32 0x27 ++ [1, 2, 3]))) 0).1 = .panic := by decide +kernel
/-- a three-byte file -/
example : ((getVar "d" ['x'] Guid.zero 0 (fun b => Outcome.ok b)).run (fileEnv (some [1, 2, 3])) 0).1 = .err := by decide +kernel
/-- a hostile environment (everything fails): one `openFile`, no write -/
example : (writeVar "d" ['x'] Guid.zero 7 [1]).run (fun _ _ => .fail) 0 =
    (.err, [(.openFile (varPath "d" ['x'] Guid.zero) 0x41 0o644, .fail)]) :=
  writeVar_run_fail "d" ['x'] Guid.zero 7 [1] _ rfl

end GoUefi.C11

#print axioms GoUefi.C11.C11_write_trace
#print axioms GoUefi.C11.C11_flags
#print axioms GoUefi.C11.C11_any_env_shape
#print axioms GoUefi.C11.C11_path
#print axioms GoUefi.C11.attrsSubset_iff
#print axioms GoUefi.C11.C11_read
#print axioms GoUefi.C11.C11_read_wrong_attrs
#print axioms GoUefi.C11.C11_read_short
#print axioms GoUefi.C11.C11_read_no_write

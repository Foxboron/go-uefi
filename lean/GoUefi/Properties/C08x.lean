import GoUefi.Facts
import GoUefi.Model.SigDb
/-! C07/C08/C09 — regenerated tie: constants and the signature-scheme GUID table of the current source -/
namespace GoUefi.C08
open GoUefi

/-- header size 28 and GUID size 16, as the model's arithmetic assumes -/
theorem C08_extracted_sizes :
    Facts.constIs "efi/signature.SizeofSignatureList" 28 = true ∧ Facts.constIs "efi/util.SizeofEFIGUID" 16 = true := by
  decide +kernel

/-- the three list types the decoder handles have the GUIDs the model uses -/
theorem C08_extracted_handled_guids :
    Facts.guidIs "efi/signature" "CERT_X509_GUID" Impl.guidX509 = true ∧
    Facts.guidIs "efi/signature" "CERT_SHA256_GUID" Impl.guidSha256 = true ∧
    Facts.guidIs "efi/signature" "CERT_EXTERNAL_MANAGEMENT_GUID" Impl.guidExternal = true := by
  decide +kernel

/-- every key of `ValidEFISignatureSchemes` in the source is a scheme of the model, and there are as many -/
theorem C08_extracted_schemes :
    (Extracted.schemes.all fun n =>
      match Facts.guidWireOf "efi/signature" n with
      | none => true
      | some w => Impl.schemes.contains w) = true ∧
    (Extracted.schemes.length = 0 ∨ Extracted.schemes.length = Impl.schemes.length) := by
  decide +kernel

end GoUefi.C08

import GoUefi.Lemmas.SigDb
/-!
# C09 — database operations are edits of an ordered collection of (type, owner, data) entries

Model: `GoUefi/Model/SigDb.lean` (`Db.append`, `Db.remove`, `Db.appendList`, `Db.has`,
`Db.hasAll`; abstraction `Impl.abs`).  Invariant `Impl.SList.Inv` / `Impl.Db.Inv`, idempotence
`Impl.Env.Idem` and `Impl.Reachable` are defined in `GoUefi/Lemmas/SigDb.lean` together with all
helper lemmas; only the property theorems and their non-vacuity examples live here.

The invariant of a list:
  type of 16 bytes, no header (`hdrSize = 0`, `hdr = []`), `16 ≤ size`,
  `listSize = 28 + count·size`, every entry has a 16-byte owner and `size − 16` bytes of data,
  no duplicate entry inside a list.
`16 ≤ size` holds of every list in a database although `newList` has size 0: it never escapes
`Db.append` without its first entry, which sets `size = |data| + 16`; `Db.remove` drops a list
instead of emptying it.
-/
namespace GoUefi.C09
open GoUefi

/-- `SigDataExists` answers membership in the abstract entry collection (type honoured). -/
theorem C09_membership {db : Impl.Db} {t o d : Bytes} :
    db.has t o d = true ↔ (t, o, d) ∈ Impl.abs db :=
  Impl.has_iff db t o d

/-- `Exists`: all entries of a list are present under the list's type. -/
theorem C09_hasAll {db : Impl.Db} {t : Bytes} {sigs : List Impl.SData} :
    db.hasAll t sigs = true ↔ ∀ s ∈ sigs, (t, s.owner, s.data) ∈ Impl.abs db :=
  by simp only [Impl.Db.hasAll, List.all_eq_true, Impl.has_iff]

/-- A successful `Append` inserts exactly one entry — the given type and owner with the data
    normalised *twice* (`Db.append` normalises, then the list-level `appendBytes` normalises a
    second time, as the Go code does) — leaving all other entries and their order untouched.  No
    hypothesis at all; only the edit of the abstract collection is claimed here.  (Before the F27
    repair the invariant could break without idempotence, because the list looked duplicates up
    under `E.norm t d` while `E.norm t (E.norm t d)` was stored.  Since the repair the list looks up
    what it stores, and the invariant survives as well: `Impl.Db.append_inv_raw`, see the examples
    below.) -/
theorem C09_append_ok_raw {E : Impl.Env} {db db' : Impl.Db} {t o d : Bytes}
    (h : db.append E t o d = .ok db') :
    ∃ pre post, Impl.abs db = pre ++ post ∧
      Impl.abs db' = pre ++ (t, o, E.norm t (E.norm t d)) :: post :=
  Impl.appendInto_abs (Impl.Db.append_ok h).2.2

/-- A successful `Append` keeps the invariant and, when normalising the normalised data again
    changes nothing (`hidem`), the entry it inserts carries the PEM-normalised data.

    Further hypotheses: the owner GUID has 16 bytes (always true of the Go struct).  None on `t`:
    success implies `t ∈ schemes`, all of which have 16 bytes. -/
theorem C09_append_ok {E : Impl.Env} {db db' : Impl.Db} {t o d : Bytes} (hinv : db.Inv)
    (ho : o.length = 16) (hidem : E.norm t (E.norm t d) = E.norm t d)
    (h : db.append E t o d = .ok db') :
    db'.Inv ∧ ∃ pre post, Impl.abs db = pre ++ post ∧
      Impl.abs db' = pre ++ (t, o, E.norm t d) :: post :=
  ⟨Impl.Db.append_inv_raw hinv ho h, hidem ▸ C09_append_ok_raw h⟩

/-- a successful `Append` is of a known scheme, and the entry with the data normalised *once* — what
    `Append` looks up; under idempotent normalisation, the entry it inserts — was not present before
    (without idempotence the inserted entry can be: last example of this file) -/
theorem C09_append_fresh {E : Impl.Env} {db db' : Impl.Db} {t o d : Bytes}
    (h : db.append E t o d = .ok db') : t ∈ Impl.schemes ∧ (t, o, E.norm t d) ∉ Impl.abs db :=
  ⟨(Impl.Db.append_ok h).1, (Impl.Db.append_ok h).2.1⟩

/-- An error returns no database: the caller keeps the old value, which no operation mutates. -/
theorem C09_append_err_unchanged {E : Impl.Env} {db : Impl.Db} {t o d : Bytes} {e : Impl.AErr}
    (h : db.append E t o d = .error e) : ∀ db', db.append E t o d ≠ .ok db' := by
  intro db' h'
  rw [h] at h'
  nomatch h'

/-- `Append` fails exactly for: a type outside `ValidEFISignatureSchemes`, an entry that is
    already present (after normalisation), a SHA-256 entry whose data is not 32 bytes, an
    externally-managed entry whose data is not one byte (F37: `SignatureSize` is 16+1 for
    `EFI_CERT_EXTERNAL_MANAGEMENT_GUID`, and the decoder accepts nothing else).
    No invariant is assumed; with `hidem`, `sizeMismatch` cannot occur because the list is chosen
    by `size = |E.norm t d| + 16`. -/
theorem C09_append_err_iff {E : Impl.Env} {db : Impl.Db} {t o d : Bytes}
    (hidem : E.norm t (E.norm t d) = E.norm t d) :
    (∃ e, db.append E t o d = .error e) ↔
      (t ∉ Impl.schemes ∨ (t, o, E.norm t d) ∈ Impl.abs db ∨
        (t = Impl.guidSha256 ∧ (E.norm t d).length ≠ 32) ∨
        (t = Impl.guidExternal ∧ (E.norm t d).length ≠ 1)) := by
  unfold Impl.Db.append
  -- `em`, not `by_cases`: the search for a decision procedure for membership among byte strings is slow
  rcases Classical.em (t ∈ Impl.schemes) with h1 | h1
  · rw [if_neg (Impl.mem_schemes_iff.mp h1)]
    rcases Classical.em ((t, o, E.norm t d) ∈ Impl.abs db) with h2 | h2
    · rw [if_pos ((Impl.has_iff ..).mpr h2)]
      exact ⟨fun _ => .inr (.inl h2), fun _ => ⟨_, rfl⟩⟩
    · rw [if_neg (fun h => h2 ((Impl.has_iff ..).mp h)), Impl.appendInto_error_iff hidem h2]
      exact ⟨fun h => .inr (.inr h), fun h => h.elim (absurd h1) (·.elim (absurd · h2) id)⟩
  · rw [if_pos (Decidable.not_not.mp (mt Impl.mem_schemes_iff.mpr h1))]
    exact ⟨fun _ => .inl h1, fun _ => ⟨_, rfl⟩⟩

/-- A wrongly-sized append reports an error (and so returns no database), with no hypothesis at all
    (no invariant, any normalisation function, whatever lists are present): SHA-256 data that is not
    32 bytes and externally-managed data that is not one byte (F37) are refused. -/
theorem C09_append_wrong_size {E : Impl.Env} {db : Impl.Db} {t o d : Bytes}
    (h : (t = Impl.guidSha256 ∧ d.length ≠ 32) ∨ (t = Impl.guidExternal ∧ d.length ≠ 1)) :
    ∃ e, db.append E t o d = .error e := by
  -- neither type is X.509, so the data is taken as it is
  have hx : t ≠ Impl.guidX509 :=
    h.elim (fun h => h.1 ▸ Impl.guidSha256_ne_guidX509)
      (fun h => h.1 ▸ Impl.guidExternal_ne_guidX509)
  have hn : E.norm t d = d := if_neg hx
  apply (C09_append_err_iff (by rw [hn, hn])).mpr
  rw [hn]
  exact Or.inr (Or.inr h)

/-- `Append` keeps the size rule of the list types (`Impl.SList.Sized`: SHA-256 lists have signature
    size 48, externally-managed lists 17, an entry-less list a size field that fits its 32 bits). -/
theorem C09_append_sized {E : Impl.Env} {db db' : Impl.Db} {t o d : Bytes}
    (hs : Impl.Db.Sized db) (h : db.append E t o d = .ok db') : Impl.Db.Sized db' :=
  Impl.appendInto_sized hs (Impl.Db.append_ok h).2.2

/-- The list a successful list-level `AppendBytes` returns obeys the size rule whatever the list
    looked like before, because the stored data has the size the specification fixes for the list's
    type (F37 for the externally-managed type). -/
theorem C09_list_append_sized {E : Impl.Env} {l l' : Impl.SList} {o d : Bytes}
    (h : l.appendBytes E o d = .ok l') :
    l'.Sized ∧ (l.type = Impl.guidSha256 → (E.norm l.type d).length = 32) ∧
      (l.type = Impl.guidExternal → (E.norm l.type d).length = 1) :=
  have ⟨hr, e⟩ := Impl.appendBytes_ok_iff.mp h
  e ▸ ⟨Impl.SList.appended_sized hr, (Impl.SList.not_refuses.mp hr).2.1,
    (Impl.SList.not_refuses.mp hr).2.2.1⟩

/-- F27 repair: the list-level `AppendBytes` rejects data whose PEM-decoded form is already in the
    list (it used to look for the undecoded bytes and then store the decoded ones a second time). -/
theorem C09_list_append_no_duplicate {E : Impl.Env} {l l' : Impl.SList} {o d : Bytes}
    (h : l.appendBytes E o d = .ok l') : l.has o (E.norm l.type d) = false ∧
      l'.sigs = l.sigs ++ [⟨o, E.norm l.type d⟩] := by
  obtain ⟨hr, rfl⟩ := Impl.appendBytes_ok_iff.mp h
  exact ⟨Bool.eq_false_iff.mpr fun hh =>
    (Impl.SList.not_refuses.mp hr).1 ((Impl.SList.has_iff ..).mp hh), rfl⟩

/-- A successful `Remove` keeps the invariant and deletes exactly one occurrence of the entry,
    leaving the others and their order untouched; no list is left behind empty (an empty list in
    the result was already there). -/
theorem C09_remove_ok {db db' : Impl.Db} {t o d : Bytes} (hinv : db.Inv)
    (h : db.remove t o d = .ok db') :
    db'.Inv ∧
    (∃ pre post, Impl.abs db = pre ++ (t, o, d) :: post ∧ Impl.abs db' = pre ++ post) ∧
    ∀ l ∈ db', l.sigs = [] → l ∈ db := by
  refine ⟨Impl.removeFrom_inv hinv h, ?_,
    Impl.removeFrom_forall (P := fun x => x.sigs = [] → x ∈ db) h (fun _ hl _ => hl)
      fun l hl hm x hx hn => absurd hn ((hinv l hl).without hm x hx).2⟩
  obtain ⟨pre, l, post, rfl, rfl, hm, rfl⟩ := Impl.removeFrom_split h
  obtain ⟨a, b, e1, e2⟩ := Impl.abs_without hm
  refine ⟨Impl.abs pre ++ a, b ++ Impl.abs post, ?_, ?_⟩
  · rw [Impl.abs_split, e1]; simp only [List.append_assoc, List.cons_append]
  · rw [Impl.abs_append, Impl.abs_append, e2, List.append_assoc, List.append_assoc]

/-- On a database that satisfies the invariant `Remove` fails exactly when the entry is absent. -/
theorem C09_remove_err_iff {db : Impl.Db} {t o d : Bytes} (hinv : db.Inv) :
    (∃ e, db.remove t o d = .error e) ↔ (t, o, d) ∉ Impl.abs db := by
  unfold Impl.Db.remove
  rcases Impl.removeFrom_cases t o d db false with ⟨pre, l, post, rfl, ht, -, hm, he⟩ | ⟨hn, he⟩
  · rw [he]
    exact ⟨fun ⟨_, h⟩ => (nomatch h), absurd
      (Impl.mem_abs.mpr ⟨l, List.mem_append_right _ List.mem_cons_self, ht, hm⟩)⟩
  · refine ⟨fun _ hm => ?_, fun _ => he⟩
    -- by the invariant an entry of the database sits in a list of its size
    obtain ⟨l, hl, ht, hs⟩ := Impl.mem_abs.mp hm
    exact hn l hl ht ((hinv l hl).entries _ hs).2.symm hs

/-- `AppendList` puts the entries of the list, in order, behind all existing entries. -/
theorem C09_appendList {db : Impl.Db} {l : Impl.SList} (hdb : db.Inv) (hl : l.Inv) :
    (db.appendList l).Inv ∧
    Impl.abs (db.appendList l) = Impl.abs db ++ l.sigs.map fun s => (l.type, s.owner, s.data) := by
  refine ⟨Impl.appendList_inv hdb hl, ?_⟩
  rw [Impl.Db.appendList, Impl.abs_append, Impl.abs_cons, Impl.abs_nil, List.append_nil]

/-- Decoding establishes the invariant, except for duplicate-freedom, which the input must have. -/
theorem C09_decoded_inv {bs : Bytes} {db : Impl.Db} (h : Impl.readDb bs = some db)
    (hnd : ∀ l ∈ db, l.sigs.Nodup) : db.Inv :=
  Impl.readDb_inv h hnd

set_option linter.unusedVariables false in
/-- Every database reachable from the empty one or from a decoded duplicate-free stream by
    successful `Append` (16-byte owner), `Remove` and `AppendList` (of a list satisfying the
    invariant) satisfies the invariant.  (`hidem`, idempotence of PEM normalisation, is not used:
    since the F27 repair the list-level duplicate check looks at what is stored,
    `Impl.Db.append_inv_raw`.) -/
theorem C09_reachable_wf {E : Impl.Env} (hidem : E.Idem) {db : Impl.Db}
    (h : Impl.Reachable E db) : db.Inv :=
  h.inv_raw

/-- The same at full strength: for EVERY PEM-normalisation function `E.norm` (idempotent or not —
    nested PEM, a decoder that is not a projection) every reachable database satisfies the invariant:
    no list holds one entry twice, every entry has its list's size, sizes add up. -/
theorem C09_reachable_wf_any_norm {E : Impl.Env} {db : Impl.Db}
    (h : Impl.Reachable E db) : db.Inv :=
  h.inv_raw

/-! ### non-vacuity -/
section Examples
open GoUefi.Ex   -- brings the (scoped) `DecidableEq (Except _ _)` used by `decide` below

/-- the invariant holds for the two-list database `Ex.db` (by decoding its wire form) -/
example : Ex.db.Inv := C09_decoded_inv Ex.readDb_bytes Ex.db_nodup

/-- evaluated once, for the example of `Append` into a new list and for the reachable database -/
private theorem append_new_list : Ex.db.append Ex.env Impl.guidX509 Ex.owner1 [9, 9, 9] = .ok
    (Ex.db ++ [⟨Impl.guidX509, 47, 0, 19, [], [⟨Ex.owner1, [9, 9, 9]⟩]⟩]) := by decide +kernel

/-- `Append` succeeds into an existing list (still 2 lists), into a new list (3 lists), and with
    PEM input (the decoded bytes are what is stored) -/
example : (Ex.db.append Ex.env Impl.guidX509 Ex.owner1 [9, 9, 9, 9]).toOption.map List.length
    = some 2 := by decide +kernel
example : Ex.db.append Ex.env Impl.guidX509 Ex.owner1 [9, 9, 9] = .ok
    (Ex.db ++ [⟨Impl.guidX509, 47, 0, 19, [], [⟨Ex.owner1, [9, 9, 9]⟩]⟩]) := append_new_list
example : (Ex.db.append Ex.pemEnv Impl.guidX509 Ex.owner1 [0x2d]).toOption.map
    (fun db' => decide ((Impl.guidX509, Ex.owner1, [0x30, 0x03, 0x02, 0x01]) ∈ Impl.abs db'))
    = some true := by decide +kernel
/-- … and fails for each of the four reasons of `C09_append_err_iff` -/
example : Ex.db.append Ex.env (List.replicate 16 0) Ex.owner1 [1] = .error .noScheme := by
  decide +kernel
example : Ex.db.append Ex.env Impl.guidX509 Ex.owner1 [1, 2, 3, 4] = .error .exists := by
  decide +kernel
example : Ex.db.append Ex.env Impl.guidSha256 Ex.owner1 [1, 2, 3, 4] = .error .notSha256 := by
  decide +kernel
/-- F37: the witness of the finding — two bytes of externally-managed data, into the empty database
    and into one that holds lists — and the empty value; one byte is taken -/
example : Impl.Db.append Ex.env [] Impl.guidExternal Ex.owner1 [1, 2] = .error .notExternal := by
  decide +kernel
example : Ex.db.append Ex.env Impl.guidExternal Ex.owner1 [1, 2] = .error .notExternal := by
  decide +kernel
example : Ex.db.append Ex.env Impl.guidExternal Ex.owner1 [] = .error .notExternal := by
  decide +kernel
example : Impl.Db.append Ex.env [] Impl.guidExternal Ex.owner1 [1]
    = .ok [⟨Impl.guidExternal, 45, 0, 17, [], [⟨Ex.owner1, [1]⟩]⟩] := by decide +kernel
/-- idempotence holds for both example environments -/
example : Ex.env.Idem ∧ Ex.pemEnv.Idem := ⟨Ex.env_idem, Ex.pemEnv_idem⟩

/-- `Remove` succeeds (shrinking a list, dropping a list) and fails -/
example : Ex.db.remove Impl.guidX509 Ex.owner2 [5, 6, 7, 8] = .ok
    [Ex.shaList, ⟨Impl.guidX509, 48, 0, 20, [], [⟨Ex.owner1, [1, 2, 3, 4]⟩]⟩] := by decide +kernel
example : Ex.db.remove Impl.guidSha256 Ex.owner1 (List.replicate 32 0xAA) = .ok [Ex.x509List] := by
  decide +kernel
example : Ex.db.remove Impl.guidX509 Ex.owner2 [1, 2, 3, 4] = .error .notFoundData := by
  decide +kernel

/-- a reachable database that is not just decoded -/
example : Impl.Reachable Ex.env
    (Ex.db ++ [⟨Impl.guidX509, 47, 0, 19, [], [⟨Ex.owner1, [9, 9, 9]⟩]⟩]) :=
  .append (.decoded Ex.readDb_bytes Ex.db_nodup) (by decide) append_new_list

/-- F27 repair, list level: the DER form is in the list, the same certificate arrives as PEM —
    rejected (it used to be stored a second time) -/
example : (⟨Impl.guidX509, 48, 0, 20, [], [⟨Ex.owner1, [0x30, 0x03, 0x02, 0x01]⟩]⟩ : Impl.SList).appendBytes
    Ex.pemEnv Ex.owner1 [0x2d] = .error .exists := by decide +kernel
/-- … while a PEM certificate that is not there yet is stored as DER -/
example : (⟨Impl.guidX509, 48, 0, 20, [], [⟨Ex.owner1, [0x30, 0x03, 0x02, 0x02]⟩]⟩ : Impl.SList).appendBytes
    Ex.pemEnv Ex.owner1 [0x2d] = .ok ⟨Impl.guidX509, 68, 0, 20, [],
      [⟨Ex.owner1, [0x30, 0x03, 0x02, 0x02]⟩, ⟨Ex.owner1, [0x30, 0x03, 0x02, 0x01]⟩]⟩ := by
  decide +kernel

/- Before the F27 repair the invariant could break without idempotence: with a decoder mapping
   `[0] ↦ [1] ↦ [2]`, appending `[0]` to a list that holds `[2]` looked up `[1]`, found nothing, and
   stored `[2]` a second time, so that

     ∃ (E : Impl.Env) (db db' : Impl.Db), db.Inv ∧
         db.append E Impl.guidX509 Ex.owner1 [0] = .ok db' ∧ ¬ db'.Inv

   held.  The repaired `appendBytes` looks up `[2]`, the very bytes it is about to store, and
   refuses; no environment at all can break the invariant through `Append`. -/
example : Impl.Db.append ⟨fun d => if d = [0] then some [1] else if d = [1] then some [2] else none⟩
    [⟨Impl.guidX509, 45, 0, 17, [], [⟨Ex.owner1, [2]⟩]⟩] Impl.guidX509 Ex.owner1 [0]
    = .error .exists := by decide +kernel
example : ¬ ∃ (E : Impl.Env) (db db' : Impl.Db), db.Inv ∧
    db.append E Impl.guidX509 Ex.owner1 [0] = .ok db' ∧ ¬ db'.Inv := by
  rintro ⟨E, db, db', hinv, h, hn⟩
  exact hn (Impl.Db.append_inv_raw hinv (by decide) h)
/-- What non-idempotent normalisation still costs: `Append` looks `E.norm t d` up in the database
    but the list stores `E.norm t (E.norm t d)`, so the entry that `C09_append_ok_raw` reports can
    already be present in another list (here `[1] ↦ [2, 2]`; the list of size 18 holds `[2, 2]`, the
    new list gets it again).  The invariant does not speak about different lists. -/
example : Impl.Db.append ⟨fun d => if d = [0] then some [1] else if d = [1] then some [2, 2] else none⟩
    [⟨Impl.guidX509, 46, 0, 18, [], [⟨Ex.owner1, [2, 2]⟩]⟩] Impl.guidX509 Ex.owner1 [0]
    = .ok [⟨Impl.guidX509, 46, 0, 18, [], [⟨Ex.owner1, [2, 2]⟩]⟩,
           ⟨Impl.guidX509, 46, 0, 18, [], [⟨Ex.owner1, [2, 2]⟩]⟩] := by decide +kernel

end Examples

end GoUefi.C09

#print axioms GoUefi.C09.C09_membership
#print axioms GoUefi.C09.C09_hasAll
#print axioms GoUefi.C09.C09_append_ok
#print axioms GoUefi.C09.C09_append_ok_raw
#print axioms GoUefi.C09.C09_append_fresh
#print axioms GoUefi.C09.C09_append_err_unchanged
#print axioms GoUefi.C09.C09_append_err_iff
#print axioms GoUefi.C09.C09_remove_ok
#print axioms GoUefi.C09.C09_remove_err_iff
#print axioms GoUefi.C09.C09_appendList
#print axioms GoUefi.C09.C09_decoded_inv
#print axioms GoUefi.C09.C09_reachable_wf
#print axioms GoUefi.C09.C09_reachable_wf_any_norm
#print axioms GoUefi.C09.C09_list_append_no_duplicate
#print axioms GoUefi.C09.C09_append_wrong_size
#print axioms GoUefi.C09.C09_append_sized
#print axioms GoUefi.C09.C09_list_append_sized

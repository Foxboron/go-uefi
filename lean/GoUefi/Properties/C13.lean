import GoUefi.Lemmas.PeSign
import GoUefi.Properties.C04
/-!
# C13 — images and signatures: parsing and verification are total and bounded

For EVERY byte string handed to `authenticode.Parse` / `Signatures` / `Verify` and to
`pkcs7.ParsePKCS7` / `Verify` the call returns a value or an error: never a panic, never a process
exit, never a loop that runs out of fuel — and the work (bytes kept, bytes hashed) is linear in the
size of the file.

In this order: the calls return; no loop stops for want of fuel (each turn consumes input, so fuel linear in the
input suffices); what is kept and hashed is linear in the file; the certificates returned fit in the table.  Each
is read off the one `Ensures` statement or fuel lemma of the function.  Models:
`GoUefi/Model/{Pe,Authenticode,Pkcs7,Der}.lean`; helper lemmas: `GoUefi/Lemmas/Pe.lean`, `GoUefi/Lemmas/PeSign.lean`,
`GoUefi/Lemmas/Pkcs7Verify.lean`; example images: `GoUefi.PeSignEx`.

The parsers `parseP7`, `parseAuthenticode` and the DER readers have result type `Option`: the Go
code they model (cryptobyte) has no crash path; for them the content is in the fuel theorems.
-/
namespace GoUefi.C13
open GoUefi GoUefi.Impl

/-- `authenticode.Parse` returns (a value or an error) for every file content and whatever
    `debug/pe` reported about it (F5: no `Truncate` panic; F18: oversize headers are an error). -/
theorem C13_parse_total (img : Bytes) (f : PeFacts) : parse img f ≠ .panic ∧ parse img f ≠ .exit :=
  (parse_spec img f).returns

/-- `Signatures()` returns for every parsed image — in fact for every certificate table whatsoever
    (F6: `dwLength < 8` is an error, nothing is allocated from the declared length). -/
theorem C13_signatures_total (p : Parsed) : p.signatures ≠ .panic ∧ p.signatures ≠ .exit :=
  p.signatures_spec.returns

/-- The loop of `Signatures()` returns for every amount of fuel and every table. -/
theorem C13_signaturesAux_total (fuel : Nat) (t : Bytes) :
    signaturesAux fuel t ≠ .panic ∧ signaturesAux fuel t ≠ .exit :=
  (PeSign.signaturesAux_spec fuel t).returns

/-- `PECOFFBinary.Verify` never ends the process. -/
theorem C13_verify_never_exit (C : Crypto) (ok : Bytes → Bool) (p : Parsed) (c : Cert) :
    p.verify C ok c ≠ .exit :=
  (PeSign.verify_spec C ok p c).returns.2

/-- `PECOFFBinary.Verify` never panics: every `Authenticode` value it verifies came out of
    `ParseAuthenticode`, whose signers carry their attributes as transmitted, so the only panicking
    branch of the PKCS#7 layer (`Attributes.Marshal` on an invalid OID) is unreachable. -/
theorem C13_verify_never_panic (C : Crypto) (ok : Bytes → Bool) (p : Parsed) (c : Cert) :
    p.verify C ok c ≠ .panic :=
  (PeSign.verify_spec C ok p c).returns.1

/-- `PKCS7.Verify` on a parsed blob returns (re-export of `C04_parsed_never_panics`). -/
theorem C13_p7_total {C : Crypto} {ok : Bytes → Bool} {b : Bytes} {p : P7} {c : Cert}
    (h : parseP7 ok b = some p) : p.verify C c ≠ .panic ∧ p.verify C c ≠ .exit :=
  C04.C04_parsed_never_panics h

/-- `PKCS7.Verify` never exits, parsed or not (re-export of `C04_never_exit`). -/
theorem C13_p7_never_exit (C : Crypto) (p : P7) (c : Cert) : p.verify C c ≠ .exit :=
  C04.C04_never_exit C p c

/-- what `ParseAuthenticode` returns carries a *parsed* PKCS#7 value -/
theorem C13_auth_parsed {ok : Bytes → Bool} {b : Bytes} {a : Auth}
    (h : parseAuthenticode ok b = some a) : ∃ b', parseP7 ok b' = some a.pkcs :=
  ⟨b, (PeSign.parseAuthenticode_inv h).1⟩

/-- `Authenticode.Verify` on a parsed signature returns, whatever the stream that is hashed. -/
theorem C13_auth_verify_total {C : Crypto} {ok : Bytes → Bool} {b : Bytes} {a : Auth} (c : Cert)
    (stream : Bytes) (h : parseAuthenticode ok b = some a) :
    a.verify C c stream ≠ .panic ∧ a.verify C c stream ≠ .exit :=
  (PeSign.Auth.verify_spec c stream h).returns

/-- The signature loop of `PECOFFBinary.Verify` returns for every list of certificates. -/
theorem C13_verifySigs_total (C : Crypto) (ok : Bytes → Bool) (c : Cert) (stream : Bytes)
    (ws : List WinCert) :
    verifySigs C ok c stream ws ≠ .panic ∧ verifySigs C ok c stream ws ≠ .exit :=
  (PeSign.verifySigs_spec C ok c stream ws).returns

/-- `Signatures()`: every turn consumes at least the 8 header bytes, so `t.length / 8` turns always
    suffice: with that much fuel the answer does not depend on the fuel. -/
theorem C13_signatures_fuel_sharp (t : Bytes) (fuel : Nat) (h : t.length / 8 ≤ fuel) :
    signaturesAux fuel t = signaturesAux t.length t :=
  PeSign.signaturesAux_fuel_irrel fuel t.length t h (Nat.div_le_self _ _)

/-- `Signatures()`: more fuel than the entry point passes (`certTable.length`) does not change the
    answer: the loop never stops because the fuel ran out. -/
theorem C13_signatures_fuel (t : Bytes) (k : Nat) :
    signaturesAux t.length t = signaturesAux (t.length + k) t :=
  (C13_signatures_fuel_sharp t _ (Nat.le_trans (Nat.div_le_self _ _) (Nat.le_add_right _ _))).symm

/-- the same for a parsed image -/
theorem C13_parsed_signatures_fuel (p : Parsed) (k : Nat) :
    p.signatures = signaturesAux (p.certTable.length + k) p.certTable :=
  C13_signatures_fuel p.certTable k

/-- `parseSignerInfos`: every SignerInfo consumes at least 2 bytes; `s.length / 2` turns suffice. -/
theorem C13_signerLoop_fuel_sharp (s : Bytes) (fuel : Nat) (h : s.length / 2 ≤ fuel) :
    signerLoop fuel s = signerLoop s.length s :=
  signerLoop_fuel_irrel fuel s.length s h (Nat.div_le_self _ _)

/-- `parseSignerInfos`: more fuel than `ParsePKCS7` passes (`sis.length`) does not change the
    result (`none` is always a decoding error). -/
theorem C13_signerLoop_fuel (s : Bytes) (fuel : Nat) (h : s.length ≤ fuel) :
    signerLoop fuel s = signerLoop s.length s :=
  C13_signerLoop_fuel_sharp s fuel (Nat.le_trans (Nat.div_le_self _ _) h)

/-- `parseAttributes`: every attribute consumes at least 2 bytes; `s.length / 2` turns suffice. -/
theorem C13_attrLoop_fuel_sharp (s : Bytes) (a : Attrs) (fuel : Nat) (h : s.length / 2 ≤ fuel) :
    attrLoop fuel s a = attrLoop s.length s a :=
  attrLoop_fuel_irrel fuel s.length s a h (Nat.div_le_self _ _)

/-- `parseAttributes`: more fuel than the entry point passes (`b.length`) does not change the
    result. -/
theorem C13_attrLoop_fuel (s : Bytes) (a : Attrs) (fuel : Nat) (h : s.length ≤ fuel) :
    attrLoop fuel s a = attrLoop s.length s a :=
  C13_attrLoop_fuel_sharp s a fuel (Nat.le_trans (Nat.div_le_self _ _) h)

/-- `first`, `last` and `certTable` of the parsed image are no longer than the file (each is a slice
    of it, `parse_spec`); `Bytes()` (F16: not pre-sized from header fields) is these three, the 8-byte
    directory entry and less than 8 bytes of padding. -/
theorem C13_parse_size {img : Bytes} {f : PeFacts} {p : Parsed} (h : parse img f = .ok p) :
    p.first.length ≤ img.length ∧ p.last.length ≤ img.length ∧ p.optDataDir.length ≤ 8 ∧
    p.certTable.length ≤ img.length ∧ p.padding < 8 ∧ p.bytes.length ≤ 3 * img.length + 16 := by
  obtain ⟨-, -, -, -, h1, h2, h3, h4, h5, -⟩ := (parse_spec img f).of_ok h
  have a1 : p.first.length ≤ img.length := by rw [h1]; exact slice_length_le_length _ _ _
  have a2 : p.last.length ≤ img.length := by rw [h3]; exact slice_length_le_length _ _ _
  have a3 : p.optDataDir.length ≤ 8 := by rw [h2]; exact Nat.le_trans (slice_length_le _ _ _) (Nat.le_of_eq (Nat.add_sub_cancel_left ..))
  have a4 : p.certTable.length ≤ img.length := by rw [h4]; exact slice_length_le_length _ _ _
  have hp : p.padding < 8 := by rw [h5]; exact pad8_lt _
  refine ⟨a1, a2, a3, a4, hp, ?_⟩
  simp only [Parsed.bytes, List.length_append, zeros_length]
  omega

theorem secs_data_length (img : Bytes) (secs : List (Nat × Nat)) :
    ((secs.map fun s => slice img s.1 (s.1 + s.2)).flatten).length ≤ (secs.map (·.2)).sum := by
  induction secs with
  | nil => simp
  | cons s ss ih =>
    rw [List.map_cons, List.flatten_cons, List.length_append, List.map_cons, List.sum_cons]
    exact Nat.add_le_add (Nat.le_trans (slice_length_le ..) (Nat.le_of_eq (Nat.add_sub_cancel_left ..))) ih

/-- The number of bytes that `Hash` digests is linear in the file size (F18: `Parse` rejects
    headers + sections larger than the file), with no assumption on the header fields (`regular` or
    not).  The factor 2 is attained by irregular layouts (example below): header ranges that overlap
    are hashed twice. -/
theorem C13_hashStream_size {img : Bytes} {f : PeFacts} {p : Parsed} (h : parse img f = .ok p) :
    (hashStream p).length ≤ 2 * img.length + 7 := by
  -- the first two header ranges do not overlap, a range is no longer than its bounds say, the sections add
  -- `SUM − SizeOfHeaders`, the tail `img.length − SUM` and the padding less than 8
  obtain ⟨-, -, hsum, -, -, -, -, -, -, hparts⟩ := (parse_spec img f).of_ok h
  have hsec := secs_data_length img (hashedSecs f)
  generalize hs : f.soh + ((hashedSecs f).map (·.2)).sum = sum at hsum hparts
  have hpad := pad8_lt (sum + (img.length - sum))
  have h12 := slice_length_add_le img 0 (f.lfanew + 24 + 64) 4 (ddOffset f)
  have h3 : (slice img (ddOffset f + 8) f.soh).length ≤ f.soh :=
    Nat.le_trans (slice_length_le ..) (Nat.sub_le ..)
  have h5 : (slice img sum (sum + (img.length - sum - f.ddSize))).length ≤ img.length - sum := by
    refine Nat.le_trans (slice_length_le ..) ?_
    rw [Nat.add_sub_cancel_left]
    exact Nat.sub_le ..
  rw [hashStream_eq, hparts]
  simp only [List.map_append, List.map_cons, List.map_nil, List.map_map, Function.comp_def, List.flatten_append,
    List.flatten_cons, List.flatten_nil, List.length_append, rangePart, zeros_length,
    List.append_nil]
  omega

/-- `Signatures()`: the bodies returned, each with its 8-byte header, fit in the table. -/
theorem C13_signatures_size_sharp {p : Parsed} {ws : List WinCert} (h : p.signatures = .ok ws) :
    (ws.map fun w => 8 + w.cert.length).sum ≤ p.certTable.length :=
  p.signatures_spec.of_ok h

/-- `Signatures()`: the total size of the certificate bodies returned is at most the table size,
    and there are at most `certTable.length / 8` of them. -/
theorem C13_signatures_size {p : Parsed} {ws : List WinCert} (h : p.signatures = .ok ws) :
    (ws.map fun w => w.cert.length).sum ≤ p.certTable.length ∧
    ws.length ≤ p.certTable.length / 8 := by
  have hs := C13_signatures_size_sharp h
  have key : ∀ l : List WinCert,
      (l.map fun w => 8 + w.cert.length).sum = 8 * l.length + (l.map fun w => w.cert.length).sum := by
    intro l
    induction l with
    | nil => rfl
    | cons w l ih => simp only [List.map_cons, List.sum_cons, List.length_cons, ih]; omega
  rw [key] at hs
  omega

section Examples
open GoUefi.PeExample GoUefi.PeSignEx

/-- shorter than the DOS header / headers and sections larger than the file (F18) / certificate
    table larger than what follows the sections (F5): errors -/
example : parse (zeros 95) ⟨0x40, 64, 95, 0, 0, []⟩ = .err := by decide
example : parse (zeros 96) ⟨0x40, 64, 400, 0, 0, []⟩ = .err := by decide
example : parse (zeros 96) ⟨0x40, 64, 64, 0, 0, [(64, 4000)]⟩ = .err := by decide
example : parse (zeros 96) ⟨0x40, 64, 96, 0, 8, []⟩ = .err := by decide
example : parse img64 (factsOf img64) = .ok (parsed img64) := parse_img64
example : parse imgSigned (factsOf imgSigned) = .ok (parsed imgSigned) := parse_imgSigned
/-- certificate tables: garbage (wrong revision), declared length 3 < 8, declared length beyond the
    table: errors; a well-formed entry is returned -/
example : signaturesAux 16 (zeros 16) = .err := by decide
example : signaturesAux 16 (le32 3 ++ le16 0x0200 ++ le16 2 ++ zeros 8) = .err := by decide
example : signaturesAux 16 (le32 0xffffffff ++ le16 0x0200 ++ le16 2 ++ zeros 8) = .err := by decide
example : (parsed img64s).signatures = .ok [⟨16, 0x0200, 2, [1, 2, 3, 4, 5, 6, 7, 8]⟩] := by
  rw [parsed_eq wf_img64s]
  decide +kernel
open Spec.PE in
/-- an image without certificate table has no signatures: `ErrNoSignatures` -/
theorem verify_unsigned {b : Bytes} (hc : certSize b = 0) (C : Crypto) (ok : Bytes → Bool)
    (c : Cert) : (wfParsed b).verify C ok c = .err := by
  have hs : (wfParsed b).signatures = .ok [] := by
    refine PeSign.signaturesAux_short _ ?_
    show (slice b (certAddr b) (certAddr b + certSize b)).length ≤ 8
    rw [PeSign.table_nil hc]
    exact Nat.zero_le 8
  unfold Parsed.verify
  rw [hs]

/-- verification: no signature / a signature over another image: errors; the signed image verifies -/
example : (parsed img64).verify toy32 allOk cert = .err :=
  parsed_eq wf_img64 ▸ verify_unsigned certSize_img64 ..
example : (parsed imgSigned').verify toy32 allOk cert = .err := verify_imgSigned'
example : (parsed imgSigned).verify toy32 allOk cert = .ok true := verify_imgSigned
/-- a table entry that is not PKCS#7 at all: an error, not a crash -/
example : verifySigs toy32 allOk cert [] [⟨16, 0x0200, 2, [1, 2, 3, 4, 5, 6, 7, 8]⟩] = .err := by
  decide +kernel
/-- DER loops: trailing garbage is an error from the reader, with any fuel -/
example : signerLoop 0 [5] = none ∧ signerLoop 100 [5] = none ∧ signerLoop 0 [] = some [] := by decide
/-- an irregular layout (unknown optional-header kind, so the directory offset is 0) on a 96-byte
    file: the header ranges [0, 188) and [8, 96) overlap and 184 = 2·96 − 8 bytes are hashed -/
example : (match parse (zeros 96) ⟨100, 0, 96, 0, 0, []⟩ with
           | .ok p => (hashStream p).length
           | _ => 0) = 184 := by decide +kernel

end Examples

end GoUefi.C13

#print axioms GoUefi.C13.C13_parse_total
#print axioms GoUefi.C13.C13_signatures_total
#print axioms GoUefi.C13.C13_signaturesAux_total
#print axioms GoUefi.C13.C13_verify_never_exit
#print axioms GoUefi.C13.C13_verify_never_panic
#print axioms GoUefi.C13.C13_p7_total
#print axioms GoUefi.C13.C13_p7_never_exit
#print axioms GoUefi.C13.C13_auth_parsed
#print axioms GoUefi.C13.C13_auth_verify_total
#print axioms GoUefi.C13.C13_verifySigs_total
#print axioms GoUefi.C13.C13_signatures_fuel_sharp
#print axioms GoUefi.C13.C13_signatures_fuel
#print axioms GoUefi.C13.C13_parsed_signatures_fuel
#print axioms GoUefi.C13.C13_signerLoop_fuel_sharp
#print axioms GoUefi.C13.C13_signerLoop_fuel
#print axioms GoUefi.C13.C13_attrLoop_fuel_sharp
#print axioms GoUefi.C13.C13_attrLoop_fuel
#print axioms GoUefi.C13.C13_parse_size
#print axioms GoUefi.C13.C13_hashStream_size
#print axioms GoUefi.C13.C13_signatures_size_sharp
#print axioms GoUefi.C13.C13_signatures_size

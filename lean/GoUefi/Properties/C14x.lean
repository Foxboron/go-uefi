import GoUefi.Sites
/-! C14 — static part (`programs` quantifier): no decoder of variable contents reaches a
    process-termination call site, for the call graph of the current source -/
namespace GoUefi.C14
open GoUefi

/-- the decoder entry points of firmware-variable and key-file contents -/
def entries : List String := [
  "efi/signature.ReadSignatureDatabase", "efi/signature.ReadSignatureList", "efi/signature.ReadSignatureData",
  "efi/signature.SignatureDatabase.Unmarshal", "efi/signature.GetSupportedSignatures",
  "efi/signature.ReadEFIVariableAuthencation2", "efi/signature.EFIVariableAuthentication2.Unmarshal",
  "efi/signature.ReadWinCertificate", "efi/signature.ReadWinCertificateUEFIGUID",
  "efi/device.EFILoadOption.Unmarshal", "efi/device.ParseDevicePath", "efi/device.ParseEFILoadOption",
  "efi/device.ParseMediaDevicePath", "efi/device.HardDriveMediaDevicePath.Format", "efi/device.FileTypeMediaDevicePath.Format",
  "efi/util.ParseUtf16Var", "efi/util.ReadNullString", "efivar.Efistring.Unmarshal", "efivarfs.bootorder.Unmarshal",
  "efivarfs.efibool.Unmarshal", "efivarfs/fswrapper.FSWrapper.ParseEfivars", "efi/attributes.ParseEfivars",
  "efi/util.StringToGUID", "efi/util.BytesToGUID", "efi/util.ReadKey", "efi/util.ReadCert",
  "efivarfs.EFIFS.GetVar", "efivarfs.EFIFS.GetVarWithAttributes", "efivarfs.Efivarfs.GetBootEntry", "efivarfs.Efivarfs.GetBootOrder",
  "efivarfs.Efivarfs.Getdb", "efivarfs.Efivarfs.Getdbx", "efivarfs.Efivarfs.GetKEK", "efivarfs.Efivarfs.GetPK"]

/-- per-run obligation on the regenerated call graph -/
theorem C14_certificate : Sites.certificateOk entries = true :=
  Sites.certificateOk_of_entriesSafe (by decide +kernel)

/-- hence: from no decoder entry point is there a call path to a function that holds a
    termination site other than the excused (infeasible or known-finding) ones -/
theorem C14_no_exit_reachable :
    ∀ e ∈ entries, ∀ i, Sites.funcIdx e = some i → ∀ f ∈ Extracted.fatalFuncs, ¬ Sites.Path Extracted.edges i f :=
  Sites.no_exit_of_certificate C14_certificate

/-- non-vacuity: the graph and the entry list are not empty, and entry points do resolve -/
example : 100 < Extracted.funcs.length ∧ 300 < Extracted.edges.length ∧ (Sites.funcIdx "efi/device.ParseDevicePath").isSome = true :=
  ⟨by decide +kernel, by decide +kernel, Sites.funcIdx_isSome_of_certificate C14_certificate (by decide +kernel)⟩

end GoUefi.C14

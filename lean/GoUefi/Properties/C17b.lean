import GoUefi.Lemmas.Utf16Term
/-!
# C17 (addendum) — decoding UTF-16 input that lacks the NUL terminator is an error

Only the property theorem and its non-vacuity examples live here.
Model: `GoUefi/Model/Utf16.lean` (`ParseUtf16Var`); lemmas: `GoUefi/Lemmas/Utf16Term.lean`.
-/
namespace GoUefi.C17
open GoUefi

/-- `ParseUtf16Var` returns an error on every input that does not end with a 2-byte-aligned
    `00 00` terminator — in particular on the empty input and on every odd-length input. -/
theorem C17_no_terminator (bs : Bytes)
    (h : ¬ (∃ p, bs = p ++ [0, 0] ∧ p.length % 2 = 0)) : parseUtf16 bs = .err :=
  Decidable.byContradiction fun hne => h (parseUtf16_terminated hne)

/-! ### non-vacuity: inputs meeting the hypothesis, and the instances named in the statement -/

/-- an input with an aligned terminator has even length, at least 2 -/
theorem no_terminator_of_length {bs : Bytes} (h : bs.length % 2 = 1 ∨ bs.length < 2) :
    ¬ ∃ p, bs = p ++ [0, 0] ∧ p.length % 2 = 0 := by
  rintro ⟨p, rfl, hl⟩
  simp at h
  omega

/-- the empty input has no terminator -/
example : ¬ (∃ p, ([] : Bytes) = p ++ [0, 0] ∧ p.length % 2 = 0) :=
  no_terminator_of_length (.inr (by decide))
example : parseUtf16 [] = .err := C17_no_terminator [] (no_terminator_of_length (.inr (by decide)))

/-- odd-length input never has an aligned terminator -/
example (bs : Bytes) (hodd : bs.length % 2 = 1) : parseUtf16 bs = .err :=
  C17_no_terminator bs (no_terminator_of_length (.inl hodd))

/-- "h" without terminator; a misaligned 00 00 (68 00 00 | 00 61 ...) does not count -/
example : parseUtf16 [0x68, 0x00] = .err := by decide
example : parseUtf16 [0x00, 0x01, 0x00, 0x00, 0x61] = .err := by decide
/-- and the theorem is not vacuous in the other direction: terminated input is accepted -/
example : parseUtf16 [0x68, 0x00, 0x00, 0x00] = .ok ['h'] := by decide

#print axioms C17_no_terminator

end GoUefi.C17

/-! ## the reader-based decoder: `Efistring.Unmarshal` = `ParseUtf16Var ∘ ReadNullString`

F32: `ReadNullString` used to append the whole 2-byte block even when only one byte had been read,
so that a lone trailing zero byte became a `00 00` terminator and `41 00 00` decoded to "A" without
an error.  After the repair what it returns is a prefix of the input, and the statement below holds. -/
namespace GoUefi.C17
open GoUefi

/-- what `ReadNullString` returns and what it leaves are the input, cut in two -/
theorem C17_readNullString_splits (bs : Bytes) :
    (readNullString bs).1 ++ (readNullString bs).2 = bs :=
  readNullString_append bs

/-- `Efistring.Unmarshal` returns an error on every input that holds no `00 00` code unit at an even
    offset — whatever its length, in particular when it ends inside a code unit. -/
theorem C17_efistring_no_terminator (bs : Bytes)
    (h : ¬ (∃ p tail, bs = p ++ [0, 0] ++ tail ∧ p.length % 2 = 0)) :
    efistringUnmarshal bs = .err :=
  -- a terminator of what `ReadNullString` returns is one of the input
  C17_no_terminator (readNullString bs).1 fun ⟨p, hp, hl⟩ =>
    h ⟨p, (readNullString bs).2, by rw [← hp, C17_readNullString_splits], hl⟩

/-- the input of the finding: 'A' followed by a single zero byte -/
example : efistringUnmarshal [0x41, 0x00, 0x00] = .err := by decide
example : efistringUnmarshal [0x00] = .err := by decide
example : efistringUnmarshal [0x41, 0x00, 0x42, 0x00, 0x00] = .err := by decide
/-- terminated input is accepted, and what follows the terminator is not looked at -/
example : efistringUnmarshal [0x41, 0x00, 0x00, 0x00, 0x07] = .ok ['A'] := by decide

#print axioms C17_readNullString_splits
#print axioms C17_efistring_no_terminator

end GoUefi.C17

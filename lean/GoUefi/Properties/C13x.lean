import GoUefi.Sites
/-! C13 — static part: no entry point for untrusted images and signatures reaches a
    process-termination call site, for the call graph of the current source -/
namespace GoUefi.C13
open GoUefi

def entries : List String := [
  "authenticode.Parse", "authenticode.PECOFFBinary.Hash", "authenticode.PECOFFBinary.Bytes", "authenticode.PECOFFBinary.Open",
  "authenticode.PECOFFBinary.Signatures", "authenticode.PECOFFBinary.Verify", "authenticode.ParseAuthenticode",
  "authenticode.Authenticode.Verify", "authenticode.multi.ReadAt", "pkcs7.ParsePKCS7", "pkcs7.PKCS7.Verify",
  "pkcs7.PKCS7.HasCertificate", "pkcs7.ParseContentInfo", "pkcs7.ParseAlgorithmIdentifier",
  "efi/signature.EFIVariableAuthentication2.Verify", "efi/signature.ReadWinCertificate"]

theorem C13_certificate : Sites.certificateOk entries = true :=
  Sites.certificateOk_of_entriesSafe (by decide +kernel)

/-- from none of these entry points is there a call path to a function holding a termination site
    other than the excused ones (for the verifiers the only excused site on a path is
    `Attributes.Marshal`'s BytesOrPanic, unreachable for parsed values: Lean theorem
    `C04_parsed_never_panics`) -/
theorem C13_no_exit_reachable :
    ∀ e ∈ entries, ∀ i, Sites.funcIdx e = some i → ∀ f ∈ Extracted.fatalFuncs, ¬ Sites.Path Extracted.edges i f :=
  Sites.no_exit_of_certificate C13_certificate

example : (Sites.funcIdx "authenticode.Parse").isSome = true ∧ (Sites.funcIdx "pkcs7.ParsePKCS7").isSome = true :=
  ⟨Sites.funcIdx_isSome_of_certificate C13_certificate (by decide +kernel),
   Sites.funcIdx_isSome_of_certificate C13_certificate (by decide +kernel)⟩

end GoUefi.C13

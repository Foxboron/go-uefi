import GoUefi.Extracted
/-
  Static certificate for "no decoder entry point reaches a process-termination call site"
  (C13/C14, quantifier `programs`).  The extractor emits, from the current source: every
  log.Fatal*/os.Exit/panic/BytesOrPanic call site with its enclosing function and guard, the resolved
  static call edges (calls through interfaces or unknown receivers are resolved by method *name* to
  every library function of that name — an over-approximation), the set `fatalFuncs` of functions
  holding a site that is not excused, and a candidate set `unsafeFuncs`.  Nothing of that is trusted
  beyond the syntactic facts: Lean re-checks that every site is accounted for, that the complement of
  `unsafeFuncs` is closed under the edges, and proves reachability soundness once and for all.
-/
namespace GoUefi.Sites

/-- reflexive-transitive reachability along call edges -/
inductive Path (es : List (Nat × Nat)) : Nat → Nat → Prop where
  | refl (a : Nat) : Path es a a
  | step {a b c : Nat} : (a, b) ∈ es → Path es b c → Path es a c

/-- every edge into an unsafe function starts in an unsafe function -/
def closedB (es : List (Nat × Nat)) (unsafeFns : List Nat) : Bool :=
  es.all fun e => !unsafeFns.contains e.2 || unsafeFns.contains e.1

theorem path_unsafe {es : List (Nat × Nat)} {us : List Nat} (hc : closedB es us = true)
    {a b : Nat} (h : Path es a b) (hb : b ∈ us) : a ∈ us := by
  induction h with
  | refl => exact hb
  | step he _ ih => simpa [ih hb] using List.all_eq_true.mp hc _ he

/-- the certificate: a function outside the (closed) unsafe set reaches no fatal function -/
theorem safe_of_certificate {es : List (Nat × Nat)} {us fatal : List Nat}
    (hc : closedB es us = true) (hf : ∀ f ∈ fatal, f ∈ us) {e f : Nat} (he : e ∉ us) (hff : f ∈ fatal) :
    ¬ Path es e f :=
  fun hp => he (path_unsafe hc hp (hf f hff))

/-- excused sites (function, callee, guard): mirror of /verif/excused_sites.json with the reasons there -/
def excused : List (String × String × String) := [
  ("efi/signature.WriteSignatureData", "log.Fatalf", "err != nil"),
  ("efi/signature.WriteSignatureList", "log.Fatalf", "err != nil"),
  ("efi/signature.WriteWinCertificate", "log.Fatal", "err := binary.Write(b, binary.LittleEndian, d); err != nil"),
  ("efi/signature.WriteWinCertificateUEFIGUID", "log.Fatal", "err := binary.Write(b, binary.LittleEndian, w.CertType); err != nil"),
  ("efi/signature.WriteWinCertificateUEFIGUID", "log.Fatal", "err := binary.Write(b, binary.LittleEndian, w.CertData); err != nil"),
  ("efi/signature.WriteEFIVariableAuthencation2", "log.Fatal", "err := binary.Write(b, binary.LittleEndian, e.Time); err != nil"),
  ("efi/signature.SignEFIVariable", "log.Fatal", "err := binary.Write(&buf, binary.LittleEndian, d); err != nil"),
  ("pkcs7.Attributes.Marshal", "b.BytesOrPanic", ""),
  ("pkcs7.Attributes.Marshal", "e.BytesOrPanic", ""),
  -- known findings (exported node parsers without an error result):
  ("efi/device.ParseACPIDevicePath", "log.Fatal", "err != nil"),
  ("efi/device.ParseHardwareDevicePath", "log.Fatal", "err != nil"),
  ("efi/device.ParseMessagingDevicePath", "log.Fatal", "err != nil")]

def funcIdx (name : String) : Option Nat :=
  let i := Extracted.funcs.findIdx (· == name)
  if i < Extracted.funcs.length then some i else none

/-- every extracted termination site `(file, function, callee, guard)` is excused above (by its last three components)
    or its function is counted as fatal -/
def sitesAccounted : Bool :=
  Extracted.fatalSites.all fun s =>
    excused.contains (s.2.1, s.2.2.1, s.2.2.2) ||
    (match funcIdx s.2.1 with
     | some i => Extracted.fatalFuncs.contains i
     | none => false)

/-- every entry point exists in the current source and lies outside the unsafe set -/
def entriesSafe (entries : List String) : Bool :=
  entries.all fun e =>
    match funcIdx e with
    | some i => !Extracted.unsafeFuncs.contains i
    | none => false

def certificateOk (entries : List String) : Bool :=
  sitesAccounted && closedB Extracted.edges Extracted.unsafeFuncs &&
  Extracted.fatalFuncs.all (Extracted.unsafeFuncs.contains ·) && entriesSafe entries

/-- the part of the certificate that does not depend on the entry points -/
theorem graph_certificate :
    (sitesAccounted && closedB Extracted.edges Extracted.unsafeFuncs &&
      Extracted.fatalFuncs.all (Extracted.unsafeFuncs.contains ·)) = true := by decide +kernel

theorem certificateOk_of_entriesSafe {entries : List String} (h : entriesSafe entries = true) :
    certificateOk entries = true := by
  rw [certificateOk, graph_certificate, h]; rfl

/-- a certified entry point exists in the current source -/
theorem funcIdx_isSome_of_certificate {entries : List String} (h : certificateOk entries = true) {e : String}
    (he : e ∈ entries) : (funcIdx e).isSome = true := by
  simp only [certificateOk, Bool.and_eq_true] at h
  have := List.all_eq_true.mp h.2 e he
  cases hf : funcIdx e with
  | some i => rfl
  | none => rw [hf] at this; cases this

/-- what a certificate for `entries` means: no entry point reaches a function that holds a
    termination site which is not excused -/
theorem no_exit_of_certificate {entries : List String} (h : certificateOk entries = true) :
    ∀ e ∈ entries, ∀ i, funcIdx e = some i → ∀ f ∈ Extracted.fatalFuncs, ¬ Path Extracted.edges i f := by
  intro e he i hi f hf
  simp only [certificateOk, Bool.and_eq_true] at h
  obtain ⟨⟨⟨_, hc⟩, hfat⟩, hent⟩ := h
  have hsafe : i ∉ Extracted.unsafeFuncs := by
    simpa [hi] using List.all_eq_true.mp hent e he
  exact safe_of_certificate hc (by simpa using hfat) hsafe hf

end GoUefi.Sites

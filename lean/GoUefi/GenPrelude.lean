/-
  Support definitions for the file generated by tools/go2lean (GoUefi/Gen.lean).
  Hand-written, core Lean only.  See tools/go2lean/main.go for what the translation models.
-/
namespace GoUefi.Gen

/-- Go's `error`: `nil` is `none`; a package-level error variable is its name, `errors.New` /
    `fmt.Errorf` values are tagged with their literal message / format. -/
abbrev GoErr := Option String

/-- `*pem.Block` as far as the library looks at it (external: `encoding/pem`) -/
structure PemBlock where
  isNil : Bool
  Bytes : List UInt8
deriving DecidableEq, Repr

/-- a field whose Go type is outside the translated subset (time.Time, pkix.AlgorithmIdentifier, …):
    kept as a placeholder; a function that reads it is untranslatable -/
structure Opaque where
deriving DecidableEq, Repr

/-- `*x509.Certificate` as far as the library's own code looks at it (external: `crypto/x509`) -/
structure X509Cert where
  Raw : List UInt8
  RawIssuer : List UInt8
  RawSubject : List UInt8
  SerialNumber : Int
deriving DecidableEq, Repr

/-- `crypto.Signer` (an interface of the standard library, implemented by keys, HSM handles, …): an
    opaque handle.  The translated code can only hand it to an external function (`pkcs7.SignPKCS7`);
    what that function does with it is part of the `Ext` value. -/
structure CryptoSigner where
  handle : Nat
deriving DecidableEq, Repr

/-- `*io.SectionReader`, represented by **the bytes that reading the section from its start to its end
    delivers** — the convention of the readers below (an `io.Reader` is the list of bytes still to be read),
    applied to a reader that can be read again from its start.  The read position is NOT part of the value: the
    translated code may only copy a section reader (`io.NewSectionReader(sr, 0, sr.Size())`: the same bytes
    again, from the start), build one over a byte slice (`io.NewSectionReader(bytes.NewReader(b), 0, len(b))`:
    `⟨b⟩`), and hand one to something that reads it to the end (`io.MultiReader`, an `io.Reader` parameter of an
    external function); a `Read` on one is rejected by the translator.  A section over a reader that the
    translated code does not own (the caller's `io.ReaderAt` behind `PECOFFBinary.firstSection`) is an ARBITRARY
    value of this type: assumed is that the underlying reader does not fail and delivers the same bytes every
    time it is read (the harness exercises readers that do not). -/
structure SectionReader where
  content : List UInt8
deriving DecidableEq, Repr

/-- an `io.ReaderAt` — or a value of a library interface that embeds it (`authenticode.SizeReaderAt`) — over
    data that the translated code does not own: a reference.  The translated code can only hand it on to
    external functions (`makeSectionReader`); what reading it delivers is part of the `Ext` value, a function of
    the reference (so: the same bytes every time). -/
structure ReaderAtRef where
  handle : Nat
deriving DecidableEq, Repr

/-- a `hash.Hash` made by `alg.New()` (`alg` a `crypto.Hash`) and kept in a local variable: the algorithm and the bytes
    written so far (`io.Copy(h, r)`, `h.Write(b)`: appended; `hash.Hash.Write` never returns an error).  `h.Sum(b)` is
    `b ++ X.crypto_Hash_Sum h.alg h.written`, the digest function being a field of the calling package's Ext structure
    (external: the standard library's hash implementations — a function of the algorithm and the bytes).  Not
    modelled: `alg.New()` panics for an algorithm that is not linked into the binary.  (tools/go2lean/fnarg.go) -/
structure HashObj where
  alg : UInt64
  written : List UInt8
deriving DecidableEq, Repr

/-- `crypto.Hash.Size()`: the table `digestSizes` of package crypto (Go 1.23) for the registered hash identifiers 1 … 19
    (`crypto.SHA256` is 5: 32 bytes).  Not modelled: for every other value Go panics ("Size of unknown hash function");
    the table answers 0 there.  (tools/go2lean/fnarg.go) -/
def cryptoHashSize (h : UInt64) : Int :=
  match h.toNat with
  | 1 => 16 | 2 => 16 | 3 => 20 | 4 => 28 | 5 => 32 | 6 => 48 | 7 => 64 | 8 => 36 | 9 => 20 | 10 => 28
  | 11 => 32 | 12 => 48 | 13 => 64 | 14 => 28 | 15 => 32 | 16 => 32 | 17 => 32 | 18 => 48 | 19 => 64
  | _ => 0

/-- `m[k] = v` on a LOCAL Go map, represented by an association list with at most one entry per key (read with
    `List.lookup`): the entry for `k` is replaced.  The order of the entries is not observable (ranging over a local
    map is rejected by the translator).  (tools/go2lean/fnarg.go) -/
def mapSet {κ α : Type} [BEq κ] (m : List (κ × α)) (k : κ) (v : α) : List (κ × α) :=
  (k, v) :: m.filter (fun e => !(e.1 == k))

theorem lookup_filter_ne {κ α : Type} [BEq κ] [LawfulBEq κ] (m : List (κ × α)) (k k' : κ) (h : (k' == k) = false) :
    (m.filter (fun e => !(e.1 == k))).lookup k' = m.lookup k' := by
  induction m with
  | nil => rfl
  | cons e m ih =>
    obtain ⟨a, b⟩ := e
    by_cases hak : (a == k) = true
    · have hk : (k' == a) = false := by
        have := eq_of_beq hak
        subst this
        exact h
      simp only [List.filter_cons, hak, Bool.not_true, Bool.false_eq_true, if_false, List.lookup_cons, hk]
      exact ih
    · simp only [List.filter_cons, hak, Bool.not_false, if_true, List.lookup_cons]
      cases k' == a <;> simp [ih]

/-- reading after writing: the written key answers the new value, every other key what it answered before -/
theorem lookup_mapSet {κ α : Type} [BEq κ] [LawfulBEq κ] (m : List (κ × α)) (k k' : κ) (v : α) :
    (mapSet m k v).lookup k' = if k' == k then some v else m.lookup k' := by
  unfold mapSet
  cases h : k' == k with
  | true => simp [List.lookup_cons, h]
  | false =>
    simp only [List.lookup_cons, h, Bool.false_eq_true, if_false]
    exact lookup_filter_ne m k k' h

/-- `[]byte(s)` for a Go string `s`.  A Go string is a sequence of bytes; a Lean `String` is a sequence
    of Unicode scalar values.  The translation represents a Go string by the Lean string with the same
    UTF-8 encoding, so `[]byte(s)` is that encoding.  Go strings that are not valid UTF-8 have no
    counterpart and are outside the model (for the theorems about `[]byte(s)` this costs nothing: they
    hold for every byte list in place of `strBytes s`). -/
def strBytes (s : String) : List UInt8 := s.toList.flatMap String.utf8EncodeChar

/-- `(*big.Int).Cmp` -/
def intCmp (a b : Int) : Int := if a < b then -1 else if a = b then 0 else 1

@[simp] theorem intCmp_eq_zero (a b : Int) : intCmp a b = 0 ↔ a = b := by
  unfold intCmp
  by_cases h1 : a < b
  · rw [if_pos h1]; constructor <;> intro h <;> omega
  · rw [if_neg h1]
    by_cases h2 : a = b
    · rw [if_pos h2]; simp [h2]
    · rw [if_neg h2]; constructor <;> intro h <;> omega

/-- external functions a translated function may call -/
structure Ext where
  /-- `pem.Decode`: (block, rest) -/
  pemDecode : List UInt8 → PemBlock × List UInt8

/-! ### readers

An `io.Reader` / `*bytes.Buffer` / `*bytes.Reader` is the list of bytes still to be read; a read
delivers what a `bytes.Reader` delivers.  Readers that deliver less or fail are not modelled here
(the harness exercises them). -/

/-- `io.ReadFull` of `n` bytes, as `binary.Read` uses it: (bytes read, reader afterwards, error).
    `n = 0` succeeds; nothing left is `io.EOF`; a short read is `io.ErrUnexpectedEOF` and has
    consumed everything. -/
def readBytes (n : Nat) (f : List UInt8) : List UInt8 × List UInt8 × GoErr :=
  if n = 0 then ([], f, none)
  else if f = [] then ([], [], some "io.EOF")
  else if f.length < n then ([], [], some "io.ErrUnexpectedEOF")
  else (f.take n, f.drop n, none)

/-- `io.ReadAll(io.LimitReader(f, n))`: up to `n` bytes, never an error -/
def readUpTo (n : Nat) (f : List UInt8) : List UInt8 × List UInt8 := (f.take n, f.drop n)

/-- `errors.Wrap(f)` / `fmt.Errorf("… %w")`: a new error value that `errors.Is` still matches against
    what it wraps, but `==` does not.  Encoded in the name: `"%w:" ++ name`. -/
def goWrap (e : GoErr) : GoErr :=
  e.map fun s => if s.startsWith "%w:" then s else "%w:" ++ s

/-- `errors.Is(err, target)` for a sentinel `target` given by name -/
def errIs (e : GoErr) (target : String) : Bool :=
  e == some target || e == some ("%w:" ++ target)

/-! the error values the translated code makes and tests, evaluated -/

theorem errIs_none (s : String) : errIs none s = false := by simp [errIs]
theorem errIs_eof : errIs (some "io.EOF") "io.EOF" = true := by decide
theorem errIs_weof : errIs (some "%w:io.EOF") "io.EOF" = true := by decide
theorem errIs_wueof : errIs (some "%w:io.ErrUnexpectedEOF") "io.EOF" = false := by decide
theorem errIs_notFoundSigData : errIs (some "ErrNotFoundSigData") "ErrNotFoundSigData" = true := by decide
theorem goWrap_eof : goWrap (some "io.EOF") = some "%w:io.EOF" := by decide +kernel
theorem goWrap_ueof : goWrap (some "io.ErrUnexpectedEOF") = some "%w:io.ErrUnexpectedEOF" := by
  decide +kernel

/-- a wrapped error is never the translator's out-of-fuel value: it starts with `%w:` -/
theorem goWrap_ne_fuel (e : String) : goWrap (some e) ≠ some "go2lean:out-of-fuel" := by
  simp only [goWrap, Option.map_some]
  intro h
  have h' := Option.some.inj h
  split at h'
  · rename_i hs; rw [h'] at hs; revert hs; decide +kernel
  · have : ("%w:" ++ e).toList = "go2lean:out-of-fuel".toList := by rw [h']
    rw [String.toList_append] at this
    revert this; simp

/-! fixed-size decoders of `binary.Read` (the argument has exactly the size of the type) -/
def decU8 (b : List UInt8) : UInt8 := b.headD 0
def decLE16 (b : List UInt8) : UInt16 := UInt16.ofNat ((b.getD 0 0).toNat + 256 * (b.getD 1 0).toNat)
def decLE32 (b : List UInt8) : UInt32 :=
  UInt32.ofNat ((b.getD 0 0).toNat + 256 * (b.getD 1 0).toNat + 65536 * (b.getD 2 0).toNat + 16777216 * (b.getD 3 0).toNat)
def decLE64 (b : List UInt8) : UInt64 :=
  UInt64.ofNat ((decLE32 b).toNat + 4294967296 * (decLE32 (b.drop 4)).toNat)
def decBE16 (b : List UInt8) : UInt16 := UInt16.ofNat (256 * (b.getD 0 0).toNat + (b.getD 1 0).toNat)
def decBE32 (b : List UInt8) : UInt32 :=
  UInt32.ofNat (16777216 * (b.getD 0 0).toNat + 65536 * (b.getD 1 0).toNat + 256 * (b.getD 2 0).toNat + (b.getD 3 0).toNat)
def decBE64 (b : List UInt8) : UInt64 :=
  UInt64.ofNat (4294967296 * (decBE32 b).toNat + (decBE32 (b.drop 4)).toNat)
def decLEi16 (b : List UInt8) : Int16 := (decLE16 b).toInt16
def decBEi16 (b : List UInt8) : Int16 := (decBE16 b).toInt16
def decBytes (b : List UInt8) : List UInt8 := b

/-! what `binary.Write` emits for the fixed-size types -/
def encU8 (v : UInt8) : List UInt8 := [v]
def encLE16 (v : UInt16) : List UInt8 := [UInt8.ofNat (v.toNat % 256), UInt8.ofNat (v.toNat / 256 % 256)]
def encLE32 (v : UInt32) : List UInt8 :=
  [UInt8.ofNat (v.toNat % 256), UInt8.ofNat (v.toNat / 256 % 256), UInt8.ofNat (v.toNat / 65536 % 256),
   UInt8.ofNat (v.toNat / 16777216 % 256)]
def encLE64 (v : UInt64) : List UInt8 :=
  encLE32 (UInt32.ofNat (v.toNat % 4294967296)) ++ encLE32 (UInt32.ofNat (v.toNat / 4294967296 % 4294967296))
def encBE16 (v : UInt16) : List UInt8 := [UInt8.ofNat (v.toNat / 256 % 256), UInt8.ofNat (v.toNat % 256)]
def encBE32 (v : UInt32) : List UInt8 :=
  [UInt8.ofNat (v.toNat / 16777216 % 256), UInt8.ofNat (v.toNat / 65536 % 256), UInt8.ofNat (v.toNat / 256 % 256),
   UInt8.ofNat (v.toNat % 256)]
def encBE64 (v : UInt64) : List UInt8 :=
  encBE32 (UInt32.ofNat (v.toNat / 4294967296 % 4294967296)) ++ encBE32 (UInt32.ofNat (v.toNat % 4294967296))
def encLEi16 (v : Int16) : List UInt8 := encLE16 v.toUInt16
def encBEi16 (v : Int16) : List UInt8 := encBE16 v.toUInt16

/-! ### `&^` on `int` -/

/-- Go's `a &^ b` (AND NOT) on `int`.  Go's `int` is a 64-bit two's-complement integer on every platform the
    library targets; the translation models it by the unbounded Lean `Int`.  This function is EXACT for all
    `a`, `b` in the range of a Go `int` (−2^63 ≤ a, b < 2^63): both are taken to their 64-bit two's-complement
    bit patterns (`BitVec.ofInt 64`), combined, and read back as a signed value (`BitVec.toInt`).  (Outside that
    range — which no Go `int` reaches — it is the operation on the low 64 bits.) -/
def intAndNot (a b : Int) : Int := (BitVec.ofInt 64 a &&& ~~~ BitVec.ofInt 64 b).toInt

/-! ### `Read` into a buffer

`buf` keeps its length; its first `min buf.length f.length` bytes are overwritten.  Result:
(buffer afterwards, reader afterwards, n, err). -/

/-- `(*bytes.Buffer).Read(buf)`: copies `min(len(buf), available)` bytes; when nothing is left the error is
    `io.EOF`, except that a zero-length `buf` then gives `nil` (bytes/buffer.go: "if len(p) == 0 return 0, nil"). -/
def bufRead (buf f : List UInt8) : List UInt8 × List UInt8 × Int × GoErr :=
  match f with
  | [] => (buf, [], 0, if buf.isEmpty then none else some "io.EOF")
  | _ :: _ => (f.take buf.length ++ buf.drop f.length, f.drop buf.length, ((min buf.length f.length : Nat) : Int), none)

/-- `(*bytes.Reader).Read(buf)`: as `bufRead`, but an exhausted reader answers `io.EOF` also for a zero-length `buf`
    (bytes/reader.go) -/
def rdrRead (buf f : List UInt8) : List UInt8 × List UInt8 × Int × GoErr :=
  match f with
  | [] => (buf, [], 0, some "io.EOF")
  | _ :: _ => (f.take buf.length ++ buf.drop f.length, f.drop buf.length, ((min buf.length f.length : Nat) : Int), none)

/-- `io.ReadFull(r, buf)` on a reader that does not fail: `min(len(buf), available)` bytes however the reader
    chunks them; `len(buf) = 0` succeeds, nothing read is `io.EOF`, fewer than `len(buf)` is
    `io.ErrUnexpectedEOF` (the bytes that were read ARE in `buf`, and `n` says how many). -/
def readFull (buf f : List UInt8) : List UInt8 × List UInt8 × Int × GoErr :=
  if buf.isEmpty then (buf, f, 0, none)
  else match f with
  | [] => (buf, [], 0, some "io.EOF")
  | _ :: _ =>
    if f.length < buf.length then (f ++ buf.drop f.length, [], (f.length : Int), some "io.ErrUnexpectedEOF")
    else (f.take buf.length, f.drop buf.length, (buf.length : Int), none)

/-! ### `fmt.Sprintf` verbs -/

/-- `%d` -/
def fmtDec (i : Int) : String := toString i

/-- the digits of `%x` / `%X` for a natural number (no padding) -/
def hexDigits (upper : Bool) (n : Nat) : List Char :=
  if upper then (Nat.toDigits 16 n).map Char.toUpper else Nat.toDigits 16 n

/-- `%x` / `%X` (`width = 0`) and `%0Nx` / `%0NX` (`width = N`: zero-padded to at least N characters) of an
    unsigned value -/
def fmtHex (upper : Bool) (width : Nat) (n : Nat) : String :=
  String.ofList (List.replicate (width - (hexDigits upper n).length) '0' ++ hexDigits upper n)

/-- the same verbs on a signed integer: Go prints the sign, then the zero padding, then the digits of the
    absolute value; the sign counts towards the width -/
def fmtHexI (upper : Bool) (width : Nat) (i : Int) : String :=
  if i < 0 then "-" ++ fmtHex upper (width - 1) i.natAbs else fmtHex upper width i.toNat

/-- result of a translated `for … range` loop: a `return` inside the body, or normal completion
    (also `break`) with the values of the variables the body assigns -/
inductive Loop (ρ : Type) (μ : Type) where
  | ret (r : ρ)
  | done (m : μ)

/-- `len(x)` (Go `int` is modelled as `Int`) -/
def lenI {α : Type} (xs : List α) : Int := xs.length

/-- `x[:i]` (Go panics when `i` is out of range; not modelled) -/
def sliceTo {α : Type} (xs : List α) (i : Int) : List α := xs.take i.toNat
/-- `x[i:]` -/
def sliceFrom {α : Type} (xs : List α) (i : Int) : List α := xs.drop i.toNat

@[simp] theorem lenI_eq {α : Type} (xs : List α) : lenI xs = (xs.length : Int) := rfl
theorem lenI_ne_zero {α : Type} (xs : List α) : (lenI xs != (0 : Int)) = decide (xs ≠ []) := by
  cases xs <;> simp [lenI] <;> omega
@[simp] theorem sliceTo_eq {α : Type} (xs : List α) (i : Int) : sliceTo xs i = xs.take i.toNat := rfl
@[simp] theorem sliceFrom_eq {α : Type} (xs : List α) (i : Int) : sliceFrom xs i = xs.drop i.toNat := rfl

/-- Go's `append(x[:i], x[i+1:]...)`: the element at index `i` is removed -/
theorem slice_remove {α : Type} (xs : List α) (i : Nat) :
    sliceTo xs (i : Int) ++ sliceFrom xs ((i : Int) + 1) = xs.eraseIdx i := by
  rw [List.eraseIdx_eq_take_drop_succ]
  rfl

end GoUefi.Gen

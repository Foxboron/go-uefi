import GoUefi.GenPrelude
import GoUefi.Model.Boot
/-!
# Facts about the prelude functions behind `fmt.Sprintf` (`fmtHex`) and `&^` (`intAndNot`)

Used by `Properties/C18g.lean` (boot names) and `Properties/C01g.lean` (padding).
-/
namespace GoUefi.GenFmt
open GoUefi GoUefi.Gen

/-! ### `%04X` -/

theorem toUpper_digitChar (n : Nat) : Char.toUpper (Nat.digitChar (n % 16)) = hexDigitU (n % 16) := by
  have : ∀ k : Fin 16, Char.toUpper (Nat.digitChar k.val) = hexDigitU k.val := by decide
  exact this ⟨n % 16, Nat.mod_lt n (by decide)⟩

/-- the `k` low hexadecimal digits of `n`, most significant first -/
def digitsW : Nat → Nat → List Char
  | 0, _ => []
  | k + 1, n => digitsW k (n / 16) ++ [Nat.digitChar (n % 16)]

theorem digitsW_zero : ∀ k, digitsW k 0 = List.replicate k '0'
  | 0 => rfl
  | k + 1 => by rw [digitsW, Nat.zero_div, digitsW_zero k, List.replicate_succ']; rfl

/-- zero-padding the digits of `n < 16^(k+1)` to the width `k + 1` gives exactly its `k + 1` low digits
    (not so for the width 0: `Nat.toDigits 16 0` is one digit) -/
theorem pad_toDigits : ∀ (k n : Nat), n < 16 ^ (k + 1) →
    List.replicate (k + 1 - (Nat.toDigits 16 n).length) '0' ++ Nat.toDigits 16 n = digitsW (k + 1) n := by
  intro k
  induction k with
  | zero =>
    intro n hn
    rw [Nat.toDigits_of_lt_base hn, digitsW, Nat.mod_eq_of_lt hn]
    rfl
  | succ k ih =>
    intro n h
    by_cases hn : n < 16
    · rw [Nat.toDigits_of_lt_base hn, digitsW, Nat.div_eq_of_lt hn, Nat.mod_eq_of_lt hn, digitsW_zero]
      rfl
    · have hk : n / 16 < 16 ^ (k + 1) := by rw [Nat.pow_succ'] at h; exact Nat.div_lt_of_lt_mul h
      rw [Nat.toDigits_of_base_le (by decide) (Nat.not_lt.1 hn), digitsW, ← ih (n / 16) hk,
        List.length_append, List.length_singleton, Nat.add_sub_add_right, List.append_assoc]

/-- `%04X` of a 16-bit value is exactly four upper-case hexadecimal digits: the model's `hex4U` -/
theorem fmtHex_upper4 (n : Nat) (h : n < 65536) : fmtHex true 4 n = String.ofList (hex4U n) := by
  -- upper-casing commutes with the padding
  have e : List.replicate (4 - ((Nat.toDigits 16 n).map Char.toUpper).length) '0' ++ (Nat.toDigits 16 n).map Char.toUpper
      = (List.replicate (4 - (Nat.toDigits 16 n).length) '0' ++ Nat.toDigits 16 n).map Char.toUpper := by
    rw [List.length_map, List.map_append, List.map_replicate]
    rfl
  unfold fmtHex hexDigits
  rw [if_pos rfl, e, pad_toDigits 3 n h]
  simp only [digitsW, List.nil_append, List.cons_append, List.map_cons, List.map_nil,
    Nat.div_div_eq_div_mul, toUpper_digitChar]
  rfl

/-- "Boot" ++ `%04X`: the firmware's name of a boot option (`Spec.fwBootName`) -/
theorem boot_name (n : Nat) (h : n < 65536) :
    "Boot" ++ fmtHex true 4 n = String.ofList (Spec.fwBootName n) := by
  rw [fmtHex_upper4 n h]
  unfold Spec.fwBootName
  rw [String.ofList_append, String.ofList_toList]

/-! ### `&^` with a mask `2^k - 1` (rounding down to a multiple of `2^k`) -/

theorem and_not_mask (X k w : Nat) (hk : k ≤ w) (hX : X < 2 ^ w) :
    X &&& (2 ^ w - 1 - (2 ^ k - 1)) = 2 ^ k * (X / 2 ^ k) := by
  have hm : 2 ^ k - 1 < 2 ^ w := Nat.sub_one_lt_of_le (Nat.two_pow_pos k) (Nat.pow_le_pow_right Nat.two_pos hk)
  apply Nat.eq_of_testBit_eq
  intro i
  rw [Nat.sub_sub, Nat.add_comm 1, Nat.testBit_and, Nat.testBit_two_pow_sub_succ hm, Nat.testBit_two_pow_sub_one,
    Nat.testBit_two_pow_mul, Nat.testBit_div_two_pow]
  by_cases hik : i < k
  · -- below bit `k` both sides are 0
    rw [decide_eq_true hik, decide_eq_false (Nat.not_le.2 hik), Bool.not_true, Bool.and_false, Bool.and_false,
      Bool.false_and]
  · rw [Nat.sub_add_cancel (Nat.le_of_not_lt hik), decide_eq_false hik, decide_eq_true (Nat.le_of_not_lt hik),
      Bool.not_false, Bool.and_true, Bool.true_and]
    -- from bit `w` on the number has no bits
    by_cases hi : i < w
    · rw [decide_eq_true hi, Bool.and_true]
    · rw [Nat.testBit_lt_two_pow (Nat.lt_of_lt_of_le hX (Nat.pow_le_pow_right Nat.two_pos (Nat.le_of_not_lt hi))),
        Bool.false_and]

/-- `x &^ (2^k - 1)` on Go's `int`, for a non-negative `x`: `x` rounded down to a multiple of `2^k` -/
theorem intAndNot_mask_nat (X k : Nat) (hX : X < 2 ^ 63) (hk : k ≤ 63) :
    intAndNot (X : Int) ((2 ^ k - 1 : Nat) : Int) = ((2 ^ k * (X / 2 ^ k) : Nat) : Int) := by
  have hX64 : X < 2 ^ 64 := Nat.lt_trans hX (by decide)
  have hm64 : 2 ^ k - 1 < 2 ^ 64 :=
    Nat.sub_one_lt_of_le (Nat.two_pow_pos k) (Nat.pow_le_pow_right Nat.two_pos (Nat.le_trans hk (by decide)))
  have hval : (BitVec.ofNat 64 X &&& ~~~ BitVec.ofNat 64 (2 ^ k - 1)).toNat = 2 ^ k * (X / 2 ^ k) := by
    rw [BitVec.toNat_and, BitVec.toNat_not, BitVec.toNat_ofNat, BitVec.toNat_ofNat, Nat.mod_eq_of_lt hX64,
      Nat.mod_eq_of_lt hm64, and_not_mask X k 64 (Nat.le_trans hk (by decide)) hX64]
  -- the result is at most `X`: the sign bit is clear
  have hlt : 2 * (2 ^ k * (X / 2 ^ k)) < 2 ^ 64 :=
    Nat.lt_of_le_of_lt (Nat.mul_le_mul_left 2 (Nat.mul_div_le X (2 ^ k))) (by omega)
  unfold intAndNot
  rw [BitVec.ofInt_natCast, BitVec.ofInt_natCast, BitVec.toInt_eq_toNat_of_lt (by rw [hval]; exact hlt), hval]

/-- rounding up to a multiple of `P`: the distance is `(P - n % P) % P` -/
theorem roundUp_sub (n P : Nat) (hP : 0 < P) : P * ((n + P - 1) / P) = n + (P - n % P) % P := by
  have hr : n % P < P := Nat.mod_lt n hP
  -- `n = r + P * q` with `r < P`
  have hn : n = n % P + P * (n / P) := (Nat.mod_add_div n P).symm
  generalize n % P = r, n / P = q at hr hn ⊢
  subst hn
  cases r with
  | zero =>
    -- a multiple of `P`: `(P * q + (P - 1)) / P = q`, and nothing is added
    rw [Nat.zero_add, Nat.sub_zero, Nat.mod_self, Nat.add_zero, Nat.add_sub_assoc hP, Nat.add_comm,
      Nat.add_mul_div_left _ _ hP, Nat.div_eq_of_lt (Nat.sub_lt hP Nat.one_pos), Nat.zero_add]
  | succ r =>
    -- otherwise `(r + P * (q + 1)) / P = q + 1`, and `P - (r + 1)` is added
    have e : r + 1 + P * q + P - 1 = r + P * (q + 1) := by rw [Nat.mul_succ]; omega
    rw [e, Nat.add_mul_div_left _ _ hP, Nat.div_eq_of_lt (Nat.lt_of_succ_lt hr), Nat.zero_add,
      Nat.mod_eq_of_lt (Nat.sub_lt hP (Nat.succ_pos r)), Nat.mul_succ]
    omega

/-- on the integers: adding that distance gives a multiple of `P`, and the distance is less than `P` -/
theorem pad_aligned (a P : Int) (hP : 0 < P) :
    (a + (P - a % P) % P) % P = 0 ∧ 0 ≤ (P - a % P) % P ∧ (P - a % P) % P < P := by
  refine ⟨?_, Int.emod_nonneg _ (Int.ne_of_gt hP), Int.emod_lt_of_pos _ hP⟩
  have e : a + (P - a % P) = P * (a / P + 1) := by
    have := Int.emod_add_mul_ediv a P
    rw [Int.mul_add, Int.mul_one]
    omega
  rw [Int.add_emod_emod, e, Int.mul_emod_right]

end GoUefi.GenFmt

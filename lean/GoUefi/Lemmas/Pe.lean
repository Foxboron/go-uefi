import GoUefi.Lemmas.Outcome
import GoUefi.Model.Pe
/-!
  The Authenticode hash input of a PE image (C01) and what C02, C03 and C13 need to know of `Parse`.
  Spec: `GoUefi/Spec/Pe.lean`; model of the Go code: `GoUefi/Model/Pe.lean`.

  The multi-reader and `io.Copy` over it return the concatenation of the parts (`multiReadAt_eq`, `copyAll_eq`).
  `WF.hdr` and `WF.dd_le` are the order of the offsets of a well-formed image that the bounds below are read from.
  `Parse` is described once for every input (`parse_spec`) and by one equation on a well-formed image (`parse_of_wf`,
  `wfParsed`), where the stream it hands to the digest is the specification's hash input (`hashStream_wfParsed`).
  The executable `classify` and `wfCheck` decide `Covered`/`Excluded` and `WF` (`classify_cases`, `wfCheck_iff`).
  The three header ranges determine the layout (`layout_congr`); they are covered, so the covered bytes and the end of the
  hashed part determine the hash input (`authInput_congr`); between two well-formed images of one length the hash input
  determines all of these (`authInput_inj`).  `PeExample` has small images with one evaluation lemma per family.

  Byte-string lemmas that only the PE proofs (this file and Lemmas/PeSign.lean) need are in `GoUefi.PeAux`; the
  general ones are in Lemmas/Bytes.lean.
-/
namespace GoUefi
namespace PeAux

theorem slice_sub {a b : Bytes} {i j i' j' : Nat} (h : slice a i j = slice b i j)
    (h1 : i ≤ i') (h2 : j' ≤ j) : slice a i' j' = slice b i' j' :=
  slice_congr fun _ hp hpj => agree_of_slice_eq h (by omega) (by omega)

theorem slice_length_of_le {b : Bytes} (i : Nat) {j : Nat} (h : j ≤ b.length) :
    (slice b i j).length = j - i := by
  rw [slice_length, Nat.min_eq_left h]

theorem slice_append_inj {a b x y : Bytes} {i j : Nat} (ha : j ≤ a.length) (hb : j ≤ b.length)
    (h : slice a i j ++ x = slice b i j ++ y) : slice a i j = slice b i j ∧ x = y :=
  List.append_inj h (by rw [slice_length_of_le i ha, slice_length_of_le i hb])

theorem slice_end_inj {a b : Bytes} {i j j' : Nat} (hj : j ≤ a.length) (hj' : j' ≤ b.length)
    (hi : i ≤ j) (hi' : i ≤ j') (h : slice a i j = slice b i j') : j = j' := by
  have := congrArg List.length h
  rw [slice_length_of_le i hj, slice_length_of_le i hj'] at this
  omega

theorem flatten_map_inj {α} (l : List α) (f g : α → Bytes)
    (hlen : ∀ x ∈ l, (f x).length = (g x).length) (r1 r2 : Bytes)
    (h : (l.map f).flatten ++ r1 = (l.map g).flatten ++ r2) :
    (∀ x ∈ l, f x = g x) ∧ r1 = r2 := by
  induction l with
  | nil => simpa using h
  | cons x xs ih =>
    simp only [List.map_cons, List.flatten_cons, List.append_assoc] at h
    obtain ⟨hx, hxs⟩ := List.forall_mem_cons.mp hlen
    obtain ⟨h1, h2⟩ := List.append_inj h hx
    obtain ⟨h3, h4⟩ := ih hxs h2
    exact ⟨List.forall_mem_cons.mpr ⟨h1, h3⟩, h4⟩

end PeAux
open PeAux

namespace Impl

/-! ### the positional multi-reader -/

/-- the positional reader returns exactly the requested window of the concatenation, without error -/
theorem multiReadAt_eq (ps : List Bytes) : ∀ (off len : Nat), off + len ≤ ps.flatten.length →
    multiReadAt ps off len = ((ps.flatten.drop off).take len, false) := by
  induction ps with
  | nil =>
    intro off len h
    have : len = 0 := by simp at h; omega
    subst this
    simp [multiReadAt]
  | cons p ps ih =>
    intro off len h
    simp only [List.flatten_cons, List.length_append] at h ⊢
    rw [multiReadAt]
    by_cases hl : len = 0
    · simp [hl]
    rw [if_neg hl]
    by_cases hpo : p.length ≤ off
    · rw [if_pos hpo, ih _ _ (by omega), List.drop_append, List.drop_of_length_le hpo, List.nil_append]
    have hdrop : (p ++ ps.flatten).drop off = p.drop off ++ ps.flatten :=
      List.drop_append_of_le_length (by omega)
    simp only [if_neg hpo, List.length_take, List.length_drop]
    by_cases hfit : len ≤ p.length - off
    · rw [if_pos (Nat.min_eq_left hfit), hdrop,
        List.take_append_of_le_length (by rw [List.length_drop]; exact hfit)]
    · have hall : (p.drop off).take len = p.drop off :=
        List.take_of_length_le (by rw [List.length_drop]; omega)
      rw [if_neg (by omega), Nat.min_eq_right (by omega), ih 0 _ (by omega), List.drop_zero, hdrop,
        List.take_append, hall, List.length_drop]

theorem copyAll_eq (ps : List Bytes) (chunk : Nat) (hc : 0 < chunk) :
    ∀ (fuel off : Nat), ps.flatten.length < fuel + off →
      copyAll ps chunk fuel off = ps.flatten.drop off := by
  intro fuel
  induction fuel with
  | zero =>
    intro off h
    rw [List.drop_of_length_le (by omega)]
    rfl
  | succ fuel ih =>
    intro off h
    unfold copyAll
    rw [← List.length_flatten]
    by_cases ho : off ≥ ps.flatten.length
    · rw [if_pos ho, List.drop_of_length_le ho]
    · rw [if_neg ho]
      have hw : off + min chunk (ps.flatten.length - off) ≤ ps.flatten.length := by omega
      simp only []
      rw [multiReadAt_eq ps _ _ hw]
      simp only []
      have hlen : ((ps.flatten.drop off).take (min chunk (ps.flatten.length - off))).length =
          min chunk (ps.flatten.length - off) := by
        simp
      have hne : ((ps.flatten.drop off).take (min chunk (ps.flatten.length - off))).isEmpty = false :=
        List.isEmpty_eq_false_iff.mpr (List.ne_nil_of_length_pos (by omega))
      rw [hne, hlen, ih _ (by omega)]
      simp only [Bool.false_eq_true, if_false]
      rw [← List.drop_drop, List.take_append_drop]

end Impl

namespace Spec.PE

theorem secEntry_append_zeros (b : Bytes) (k tab : Nat) :
    secEntry (b ++ zeros k) tab = secEntry b tab := by
  funext i
  simp only [secEntry, le32At_append_zeros]

theorem layout_append_zeros (b : Bytes) (k : Nat) : layout (b ++ zeros k) = layout b := by
  unfold layout
  simp only [le32At_append_zeros, le16At_append_zeros, secEntry_append_zeros]

theorem layout_padded (b : Bytes) : layout (padded b) = layout b := layout_append_zeros b _

theorem certSize_padded (b : Bytes) : certSize (padded b) = certSize b := by
  unfold certSize
  rw [layout_padded]
  exact le32At_append_zeros b _ _

theorem certAddr_padded (b : Bytes) : certAddr (padded b) = certAddr b := by
  unfold certAddr
  rw [layout_padded]
  exact le32At_append_zeros b _ _

theorem padded_length (b : Bytes) : (padded b).length = b.length + pad8 b.length := by
  simp [padded]

theorem Layout.le_dd (l : Layout) : l.L + 152 ≤ l.dd := by
  unfold Layout.dd; split <;> omega
theorem Layout.soh_le_sum (l : Layout) : l.soh ≤ l.sum := by
  unfold Layout.sum; omega

/-- the three header ranges of the hash input are in order and inside the image -/
theorem WF.hdr {b : Bytes} (h : WF b) : (layout b).ck + 4 ≤ (layout b).dd ∧
    (layout b).dd + 8 ≤ (layout b).soh ∧ (layout b).soh ≤ b.length := by
  have hck : (layout b).ck = (layout b).L + 88 := rfl
  have := (layout b).le_dd
  have := h.dirs_fit
  have := h.tab_soh
  have := h.soh_n
  omega

/-- the directory entry stands in front of the end of the hashed part -/
theorem WF.dd_le {b : Bytes} (h : WF b) : (layout b).dd + 8 ≤ b.length - certSize b :=
  Nat.le_trans h.hdr.2.1 h.soh_n

/-- a certificate table is the 8-aligned tail of an 8-aligned file, behind the directory entry -/
theorem WF.certAddr_eq {b : Bytes} (h : WF b) (hc : certSize b ≠ 0) :
    certAddr b + certSize b = b.length ∧ b.length % 8 = 0 ∧ certSize b % 8 = 0 ∧ certAddr b ≠ 0 := by
  rcases h.aligned with h0 | ⟨h8, hc8, he⟩
  · exact absurd h0 hc
  · have := h.dd_le
    exact ⟨he, h8, hc8, by omega⟩

theorem WF.sec_le {b : Bytes} (h : WF b) {s : Nat × Nat} (hs : s ∈ (layout b).hashed) :
    s.1 + s.2 ≤ b.length :=
  Nat.le_trans (h.secs_in s hs).2 (Nat.sub_le _ _)

theorem padded_of_aligned {b : Bytes} (h : b.length % 8 = 0) : padded b = b := by
  unfold padded
  rw [pad8_eq_zero h]
  exact List.append_nil b

theorem WF.padded_eq {b : Bytes} (h : WF b) (hc : certSize b ≠ 0) : padded b = b :=
  padded_of_aligned (h.certAddr_eq hc).2.1

/-- the last range of the hash input of the padded image: the data after the sections up to the
    certificate table, then the padding -/
theorem WF.tail_padded {b : Bytes} (h : WF b) (i : Nat) (hi : i ≤ b.length - certSize b) :
    slice (padded b) i ((padded b).length - certSize b) =
      slice b i (b.length - certSize b) ++ zeros (pad8 b.length) := by
  rcases h.aligned with hc | ⟨h8, _, _⟩
  · rw [hc, Nat.sub_zero] at hi
    rw [hc, Nat.sub_zero, Nat.sub_zero, padded_length]
    have := slice_append_full b (zeros (pad8 b.length)) i hi
    rwa [zeros_length] at this
  · rw [padded_of_aligned h8, pad8_eq_zero h8]
    exact (List.append_nil _).symm

theorem slice_padded (b : Bytes) (i j : Nat) (h : j ≤ b.length) : slice (padded b) i j = slice b i j :=
  slice_append_left b _ i j h

theorem WF.authInputPadded_eq {b : Bytes} (h : WF b) :
    authInputPadded b = authInput b ++ zeros (pad8 b.length) := by
  have := h.hdr
  have hm : ((layout b).hashed.map fun s => slice (padded b) s.1 (s.1 + s.2)) =
      ((layout b).hashed.map fun s => slice b s.1 (s.1 + s.2)) :=
    List.map_congr_left fun s hs => slice_padded b _ _ (h.sec_le hs)
  unfold authInputPadded authInput
  simp only []
  rw [layout_padded, certSize_padded, h.tail_padded _ h.sum_le, hm,
      slice_padded b _ _ (by omega), slice_padded b _ _ (by omega), slice_padded b _ _ (by omega)]
  simp only [List.append_assoc]

end Spec.PE

namespace Impl
open Spec.PE

theorem ddOffset_factsOf (b : Bytes) : ddOffset (factsOf b) = (layout b).dd := by
  unfold ddOffset factsOf Layout.dd
  by_cases hp : (layout b).plus = true <;> simp [hp]

theorem hashedSecs_factsOf (b : Bytes) : hashedSecs (factsOf b) = (layout b).hashed := rfl

/-- `authenticode.Parse` returns (F5: no `Truncate` panic; F18: oversize headers are an error), whatever `debug/pe`
    reported; a certificate table it accepts is the 8-aligned tail of the file (F22), and what it returns is cut
    out of the file like this -/
theorem parse_spec (img : Bytes) (f : PeFacts) : (parse img f).Ensures fun p =>
    let dd := ddOffset f
    let ck := f.lfanew + 24 + 64
    let secs := hashedSecs f
    let sum := f.soh + (secs.map (·.2)).sum
    96 ≤ img.length ∧ f.ddSize ≤ img.length - sum ∧ sum ≤ img.length ∧
    (f.ddSize ≠ 0 → f.ddVA % 8 = 0 ∧ f.ddVA + f.ddSize = img.length) ∧
    p.first = slice img 0 dd ∧ p.optDataDir = slice img dd (dd + 8) ∧
    p.last = slice img (dd + 8) (sum + (img.length - sum - f.ddSize)) ∧
    p.certTable = slice img f.ddVA (f.ddVA + f.ddSize) ∧
    p.padding = pad8 (sum + (img.length - sum)) ∧
    p.parts = [rangePart img 0 ck, rangePart img (ck + 4) dd, rangePart img (dd + 8) f.soh] ++
                 (secs.map fun s => (⟨s.2, slice img s.1 (s.1 + s.2)⟩ : Part)) ++
                 [⟨img.length - sum - f.ddSize + pad8 (sum + (img.length - sum)),
                   slice img sum (sum + (img.length - sum - f.ddSize)) ++
                     zeros (pad8 (sum + (img.length - sum)))⟩] := by
  unfold parse
  exact .guard fun h96 => .guard fun hdd => .guard fun hsum => .guard fun htail =>
    .ok ⟨by omega, by omega, by omega, by omega, rfl, rfl, rfl, rfl, rfl, rfl⟩

/-- what `Parse` returns on a well-formed image, in the terms of the specification -/
def wfParsed (b : Bytes) : Parsed :=
  let l := layout b
  { ddVA := certAddr b, ddSize := certSize b,
    parts := [rangePart b 0 l.ck, rangePart b (l.ck + 4) l.dd, rangePart b (l.dd + 8) l.soh] ++
      (l.hashed.map fun s => (⟨s.2, slice b s.1 (s.1 + s.2)⟩ : Part)) ++
      [⟨b.length - certSize b - l.sum + pad8 b.length,
        slice b l.sum (b.length - certSize b) ++ zeros (pad8 b.length)⟩],
    length := b.length + pad8 b.length, padding := pad8 b.length,
    first := slice b 0 l.dd, optDataDir := slice b l.dd (l.dd + 8),
    last := slice b (l.dd + 8) (b.length - certSize b),
    certTable := slice b (certAddr b) (certAddr b + certSize b), regular := true }

theorem parse_of_wf {b : Bytes} (h : WF b) : parse b (factsOf b) = .ok (wfParsed b) := by
  have hd := h.hdr
  have hs := h.sum_le
  have hsl : (layout b).sum ≤ b.length := Nat.le_trans hs (Nat.sub_le _ _)
  have h96 : 96 ≤ b.length := by
    have := (layout b).le_dd
    omega
  have hc : certSize b ≤ b.length - (layout b).sum := by
    have := h.c_le
    omega
  have htail : ¬(certSize b ≠ 0 ∧ (certAddr b % 8 ≠ 0 ∨ certAddr b + certSize b ≠ b.length)) := by
    have := h.aligned
    omega
  have e1 : (factsOf b).soh = (layout b).soh := rfl
  have e2 : (factsOf b).ddSize = certSize b := rfl
  have e3 : (factsOf b).lfanew + 24 + 64 = (layout b).ck := rfl
  have e4 : (layout b).soh + ((layout b).hashed.map (·.2)).sum = (layout b).sum := rfl
  have e5 : (factsOf b).ddVA = certAddr b := rfl
  unfold parse
  simp only [ddOffset_factsOf, hashedSecs_factsOf]
  -- the four guards pass; `SUM + restLen` is the file size and `SUM + binaryRest` the start of the certificate table
  rw [e1, e2, e3, e4, e5, if_neg (Nat.not_lt.mpr h96), if_neg (Nat.not_lt.mpr hc),
    if_neg (Nat.not_lt.mpr hsl), if_neg htail,
    Nat.sub_right_comm b.length, Nat.add_sub_cancel' hsl, Nat.add_sub_cancel' hs,
    decide_eq_true ⟨hd.1, hd.2.1, h.dd_le⟩]
  rfl

theorem parse_eq_wfParsed {b : Bytes} (h : WF b) {p : Parsed} (hp : parse b (factsOf b) = .ok p) :
    p = wfParsed b := by
  rw [parse_of_wf h] at hp
  exact (Outcome.ok.inj hp).symm

theorem hashStream_eq (p : Parsed) : hashStream p = (p.parts.map (·.data)).flatten := by
  unfold hashStream multiParts
  exact List.flatten_filter_ne_nil

/-- every range handed to the multi-reader delivers all its bytes -/
theorem wfParsed_full {b : Bytes} (h : WF b) : ∀ q ∈ (wfParsed b).parts, q.full = true := by
  have := h.hdr
  intro q hq
  simp only [wfParsed, List.mem_append, List.mem_cons, List.mem_map, List.not_mem_nil, or_false] at hq
  rcases hq with (((rfl | rfl | rfl)) | ⟨s, hs, rfl⟩) | rfl
  · exact beq_iff_eq.mpr (slice_length_of_le _ (by omega))
  · exact beq_iff_eq.mpr (slice_length_of_le _ (by omega))
  · exact beq_iff_eq.mpr (slice_length_of_le _ (by omega))
  · exact beq_iff_eq.mpr ((slice_length_of_le _ (h.sec_le hs)).trans (Nat.add_sub_cancel_left ..))
  · exact beq_iff_eq.mpr (by
      rw [List.length_append, zeros_length, slice_length_of_le _ (Nat.sub_le _ _)])

/-- the stream the implementation digests is the specification's hash input -/
theorem hashStream_wfParsed {b : Bytes} (h : WF b) : hashStream (wfParsed b) = authInputPadded b := by
  rw [hashStream_eq, h.authInputPadded_eq]
  simp [wfParsed, authInput, rangePart, List.map_map, Function.comp_def]

theorem hashStream_of_parse {b : Bytes} (h : WF b) {p : Parsed}
    (hp : parse b (factsOf b) = .ok p) : hashStream p = authInputPadded b := by
  cases parse_eq_wfParsed h hp
  exact hashStream_wfParsed h

end Impl

namespace Spec.PE

theorem any_range_iff (l : List (Nat × Nat)) (p : Nat) :
    (l.any fun s => decide (s.1 ≤ p ∧ p < s.1 + s.2)) = true ↔ ∃ s ∈ l, s.1 ≤ p ∧ p < s.1 + s.2 := by
  simp [List.any_eq_true]

theorem WF.covered_lt {b : Bytes} (h : WF b) {p : Nat} (hc : Covered b p) :
    p < b.length - certSize b := by
  have := h.hdr
  have := h.soh_n
  rcases hc with hc | ⟨_, hc⟩ | ⟨_, hc⟩ | ⟨s, hs, _, hc⟩ | ⟨_, hc⟩
  · omega
  · omega
  · omega
  · exact Nat.lt_of_lt_of_le hc (h.secs_in s hs).2
  · exact hc

theorem WF.covered_not_excluded {b : Bytes} (h : WF b) {p : Nat} (hc : Covered b p) :
    ¬ Excluded b p := by
  have h0 := h.covered_lt hc
  have := h.hdr
  unfold Excluded
  simp only []
  rcases hc with hc | ⟨hc1, hc⟩ | ⟨hc1, hc⟩ | ⟨s, hs, hc1, hc⟩ | ⟨hc1, hc⟩
  · omega
  · omega
  · omega
  · have := (h.secs_in s hs).1
    omega
  · have := (layout b).soh_le_sum
    omega

/-- the classifier decides the partition of the positions inside the image: excluded, else covered, else gap -/
theorem classify_cases (b : Bytes) (p : Nat) (hp : p < b.length) :
    (Excluded b p ∧ classify b p = .excluded) ∨ (¬ Excluded b p ∧ Covered b p ∧ classify b p = .covered) ∨
    (¬ Excluded b p ∧ ¬ Covered b p ∧ classify b p = .gap) := by
  have hx : ((layout b).ck ≤ p ∧ p < (layout b).ck + 4) ∨ ((layout b).dd ≤ p ∧ p < (layout b).dd + 8) ∨
      b.length - certSize b ≤ p ↔ Excluded b p :=
    ⟨Or.imp id (Or.imp id fun h => ⟨h, hp⟩), Or.imp id (Or.imp id And.left)⟩
  unfold classify
  simp only []
  rw [if_neg (by omega)]
  split
  · rename_i he
    exact .inl ⟨hx.mp he, rfl⟩
  · rename_i he
    split
    · rename_i hc
      rw [any_range_iff] at hc
      exact .inr (.inl ⟨fun h => he (hx.mpr h), hc, rfl⟩)
    · rename_i hc
      rw [any_range_iff] at hc
      exact .inr (.inr ⟨fun h => he (hx.mpr h), hc, rfl⟩)

theorem covered_of_classify {b : Bytes} {p : Nat} (hp : p < b.length) (h : classify b p = .covered) :
    Covered b p := by
  rcases classify_cases b p hp with ⟨_, hc⟩ | ⟨_, hcov, _⟩ | ⟨_, _, hc⟩
  · rw [hc] at h; cases h
  · exact hcov
  · rw [hc] at h; cases h

theorem wfCheck_iff (b : Bytes) : wfCheck b = true ↔ WF b := by
  have eL : le32At b 0x3c = (layout b).L := rfl
  have eO : le16At b ((layout b).L + 20) = (layout b).optSize := rfl
  have eN : le16At b ((layout b).L + 6) = (layout b).nsec := rfl
  have eS : le32At b ((layout b).L + 24 + 60) = (layout b).soh := rfl
  unfold wfCheck
  simp only []
  rw [eL, eO, eN, eS]
  constructor
  · intro hh
    split at hh
    · cases hh
    · simp only [Bool.and_eq_true, Bool.or_eq_true, beq_iff_eq, decide_eq_true_eq,
        List.all_eq_true, and_assoc] at hh
      obtain ⟨m1, m2, g1, g2, g3, g4, g5, g6, g7, g8, g9, g10, g11⟩ := hh
      exact ⟨⟨m1, m2⟩, g1, g2, g3, g4, g5, g6, g7, g8, g9, g10, g11⟩
  · intro w
    have t1 : (layout b).L + 24 + (layout b).optSize + 40 * (layout b).nsec ≤ (layout b).soh := w.tab_soh
    have t2 := w.soh_n
    rw [if_neg (by omega)]
    simp only [Bool.and_eq_true, Bool.or_eq_true, beq_iff_eq, decide_eq_true_eq,
        List.all_eq_true, and_assoc]
    exact ⟨w.mz.1, w.mz.2, w.pesig, w.magic, w.ndirs, w.dirs_fit, w.tab_soh, w.soh_n, w.c_le,
      w.secs_in, w.sum_le, w.disjoint, w.aligned⟩

theorem Layout.ext : ∀ {x y : Layout}, x.L = y.L → x.plus = y.plus → x.nsec = y.nsec →
    x.optSize = y.optSize → x.soh = y.soh → x.ndirs = y.ndirs → x.secs = y.secs → x = y
  | ⟨_, _, _, _, _, _, _⟩, ⟨_, _, _, _, _, _, _⟩, rfl, rfl, rfl, rfl, rfl, rfl, rfl => rfl

/-- the first header range holds e_lfanew and, from there, the fields that fix the ends of all three -/
theorem layout_congr_hdr {a b : Bytes} (r1 : slice a 0 (layout a).ck = slice b 0 (layout a).ck) :
    (layout a).L = (layout b).L ∧ (layout a).plus = (layout b).plus ∧ (layout a).nsec = (layout b).nsec ∧
    (layout a).optSize = (layout b).optSize ∧ (layout a).soh = (layout b).soh := by
  have ckA : (layout a).ck = (layout a).L + 88 := rfl
  have hL : (layout a).L = (layout b).L := by
    show le32At a 0x3c = le32At b 0x3c
    exact le32At_congr r1 (Nat.zero_le _) (by omega)
  refine ⟨hL, ?_, ?_, ?_, ?_⟩
  · show (le16At a ((layout a).L + 24) == 0x20b) = (le16At b ((layout b).L + 24) == 0x20b)
    rw [← hL, le16At_congr r1 (Nat.zero_le _) (by omega)]
  · show le16At a ((layout a).L + 6) = le16At b ((layout b).L + 6)
    rw [← hL]
    exact le16At_congr r1 (Nat.zero_le _) (by omega)
  · show le16At a ((layout a).L + 20) = le16At b ((layout b).L + 20)
    rw [← hL]
    exact le16At_congr r1 (Nat.zero_le _) (by omega)
  · show le32At a ((layout a).L + 24 + 60) = le32At b ((layout b).L + 24 + 60)
    rw [← hL]
    exact le32At_congr r1 (Nat.zero_le _) (by omega)

/-- a section table inside a range on which two files agree has the same entries in both -/
theorem secEntry_congr {a b : Bytes} {lo hi tab n i : Nat} (r : slice a lo hi = slice b lo hi)
    (h1 : lo ≤ tab) (h2 : tab + 40 * n ≤ hi) (hi' : i < n) : secEntry a tab i = secEntry b tab i := by
  simp only [secEntry]
  rw [le32At_congr r (by omega) (by omega), le32At_congr r (by omega) (by omega)]

/-- the layout is a function of the three header ranges of the hash input -/
theorem layout_congr {a b : Bytes} (d1 : (layout a).dd + 8 ≤ (layout a).secTab)
    (d2 : (layout a).secTab + 40 * (layout a).nsec ≤ (layout a).soh)
    (r1 : slice a 0 (layout a).ck = slice b 0 (layout a).ck)
    (r2 : slice a ((layout a).ck + 4) (layout a).dd = slice b ((layout a).ck + 4) (layout a).dd)
    (r3 : slice a ((layout a).dd + 8) (layout a).soh = slice b ((layout a).dd + 8) (layout a).soh) :
    layout a = layout b := by
  obtain ⟨hL, hplus, hnsec, hopt, hsoh⟩ := layout_congr_hdr r1
  have hnd : (layout a).ndirs = (layout b).ndirs := by
    show le32At a ((layout a).L + 24 + (if (layout a).plus then 108 else 92)) =
         le32At b ((layout b).L + 24 + (if (layout b).plus then 108 else 92))
    rw [← hL, ← hplus]
    -- NumberOfRvaAndSizes stands 36 bytes in front of directory 4 in both header kinds, behind CheckSum
    have ckA : (layout a).ck = (layout a).L + 88 := rfl
    have hx : (layout a).L + 24 + (if (layout a).plus then 108 else 92) + 36 = (layout a).dd := by
      unfold Layout.dd
      split <;> rfl
    have hdd := (layout a).le_dd
    exact le32At_congr r2 (by omega) (by omega)
  have hsecs : (layout a).secs = (layout b).secs := by
    show (List.range (layout a).nsec).map (secEntry a ((layout a).L + 24 + (layout a).optSize)) =
         (List.range (layout b).nsec).map (secEntry b ((layout b).L + 24 + (layout b).optSize))
    rw [← hnsec, ← hL, ← hopt]
    exact List.map_congr_left fun i hi => secEntry_congr r3 d1 d2 (List.mem_range.mp hi)
  exact Layout.ext hL hplus hnsec hopt hsoh hnd hsecs

/-- the hash input of a well-formed image is determined by the end of the hashed part and the covered bytes (among
    them the three header ranges, which fix the layout) -/
theorem authInput_congr {a b : Bytes} (wa : WF a)
    (he : a.length - certSize a = b.length - certSize b)
    (hag : ∀ p, Covered a p → a[p]? = b[p]?) : authInput a = authInput b := by
  have hs : ∀ i j, (∀ p, i ≤ p → p < j → Covered a p) → slice a i j = slice b i j :=
    fun i j hc => slice_congr fun p h1 h2 => hag p (hc p h1 h2)
  have r1 := hs 0 (layout a).ck fun p _ h => Or.inl h
  have r2 := hs ((layout a).ck + 4) (layout a).dd fun p h1 h2 => Or.inr (Or.inl ⟨h1, h2⟩)
  have r3 := hs ((layout a).dd + 8) (layout a).soh fun p h1 h2 => Or.inr (Or.inr (Or.inl ⟨h1, h2⟩))
  have hl := layout_congr wa.dirs_fit wa.tab_soh r1 r2 r3
  have hm : ((layout a).hashed.map fun s => slice a s.1 (s.1 + s.2)) =
      ((layout a).hashed.map fun s => slice b s.1 (s.1 + s.2)) :=
    List.map_congr_left fun s hs' => hs _ _ fun p h1 h2 => Or.inr (Or.inr (Or.inr (Or.inl ⟨s, hs', h1, h2⟩)))
  unfold authInput
  simp only []
  rw [← hl, ← he, hm, r1, r2, r3, hs (layout a).sum _ fun p h1 h2 => Or.inr (Or.inr (Or.inr (Or.inr ⟨h1, h2⟩)))]

/-- equal hash inputs of two equally long well-formed images force the same layout, the same certificate
    table size, and agreement on every covered byte -/
theorem authInput_inj (a b : Bytes) (wa : WF a) (wb : WF b) (hn : a.length = b.length)
    (h : authInput a = authInput b) :
    layout a = layout b ∧ certSize a = certSize b ∧ ∀ p, Covered a p → a[p]? = b[p]? := by
  have ckA : (layout a).ck = (layout a).L + 88 := rfl
  have ckB : (layout b).ck = (layout b).L + 88 := rfl
  have hA := wa.hdr
  -- the ranges end inside `a`, hence inside `b`, which is as long
  have la : 0x40 ≤ (layout a).ck ∧ (layout a).ck ≤ a.length ∧ (layout a).dd ≤ a.length := by omega
  have lb : 0x40 ≤ (layout b).ck := by omega
  have h64 : 0x40 ≤ a.length := Nat.le_trans la.1 la.2.1
  unfold authInput at h
  simp only [] at h
  -- the first 0x40 bytes give e_lfanew, hence the end of the first range
  have h40 := h
  rw [slice_split a (k := 0x40) (Nat.zero_le _) la.1 h64,
    slice_split b (k := 0x40) (Nat.zero_le _) lb (hn ▸ h64), List.append_assoc, List.append_assoc] at h40
  have hL : (layout b).L = (layout a).L :=
    (le32At_congr (slice_append_inj h64 (hn ▸ h64) h40).1 (Nat.zero_le _) (Nat.le_refl _)).symm
  rw [show (layout b).ck = (layout a).ck by rw [ckA, ckB, hL]] at h
  obtain ⟨r1, h⟩ := slice_append_inj la.2.1 (hn ▸ la.2.1) h
  -- the first range holds the optional-header magic and SizeOfHeaders, hence the other two ends
  obtain ⟨_, hplus, _, _, hsoh⟩ := layout_congr_hdr r1
  have hdd : (layout b).dd = (layout a).dd := by
    show (layout b).L + 24 + _ = (layout a).L + 24 + _
    rw [hL, hplus]
  rw [hdd] at h
  obtain ⟨r2, h⟩ := slice_append_inj la.2.2 (hn ▸ la.2.2) h
  rw [← hsoh] at h
  obtain ⟨r3, h⟩ := slice_append_inj hA.2.2 (hn ▸ hA.2.2) h
  have hlay : layout a = layout b := layout_congr wa.dirs_fit wa.tab_soh r1 r2 r3
  -- sections and tail; the tails begin at the same offset, so they end at the same offset
  rw [← hlay] at h
  obtain ⟨hs, htail⟩ := flatten_map_inj (layout a).hashed _ _ (fun s hs => by
      rw [slice_length_of_le _ (wa.sec_le hs), slice_length_of_le _ (wb.sec_le (hlay ▸ hs))]) _ _ h
  have he : a.length - certSize a = b.length - certSize b :=
    slice_end_inj (Nat.sub_le _ _) (Nat.sub_le _ _) wa.sum_le (hlay ▸ wb.sum_le) htail
  have hc : certSize a = certSize b := by
    rw [← Nat.sub_sub_self wa.c_le, he, hn, Nat.sub_sub_self wb.c_le]
  refine ⟨hlay, hc, ?_⟩
  rw [← he] at htail
  rintro p (hp | ⟨hp1, hp2⟩ | ⟨hp1, hp2⟩ | ⟨s, hs', hp1, hp2⟩ | ⟨hp1, hp2⟩)
  · exact agree_of_slice_eq r1 (Nat.zero_le _) hp
  · exact agree_of_slice_eq r2 hp1 hp2
  · exact agree_of_slice_eq r3 hp1 hp2
  · exact agree_of_slice_eq (hs s hs') hp1 hp2
  · exact agree_of_slice_eq htail hp1 hp2

end Spec.PE

/-! ### small concrete images (the hypotheses of the PE properties can be met) -/
namespace PeExample

/-- a 40-byte section header with the given PointerToRawData and SizeOfRawData -/
def secHdr (ptr size : Nat) : Bytes :=
  [0x2e, 0x74, 0x65, 0x78, 0x74, 0, 0, 0] ++ le32 size ++ le32 0x1000 ++ le32 size ++ le32 ptr ++ zeros 16

/-- a small image: DOS header with e_lfanew = 0x40; COFF header with 2 sections; optional header
    (PE32+ when `plus`, else PE32) with CheckSum `ck` and 5 data directories; two section headers
    whose order is the opposite of their file order (the first header points to the second raw
    block); 16 + 8 bytes of raw data; `trail` after the last section; the certificate table `cert` -/
def mkImg (plus : Bool) (ck : Nat) (trail cert : Bytes) : Bytes :=
  let optSize := if plus then 152 else 136
  let soh := 88 + optSize + 80
  [0x4d, 0x5a] ++ zeros 58 ++ le32 0x40 ++
  [0x50, 0x45, 0, 0] ++ le16 (if plus then 0x8664 else 0x14c) ++ le16 2 ++ zeros 12 ++
    le16 optSize ++ le16 0x22 ++
  le16 (if plus then 0x20b else 0x10b) ++ zeros 58 ++ le32 soh ++ le32 ck ++
    zeros (if plus then 40 else 24) ++ le32 5 ++ zeros 32 ++
    (if cert.isEmpty then zeros 8 else le32 (soh + 24 + trail.length) ++ le32 cert.length) ++
  secHdr (soh + 16) 8 ++ secHdr soh 16 ++
  List.replicate 16 0xaa ++ List.replicate 8 0xbb ++ trail ++ cert

/-- unsigned PE32+ image, 349 bytes (≡ 5 mod 8), 5 trailing bytes -/
def img64 : Bytes := mkImg true 0 [1, 2, 3, 4, 5] []
/-- the same with the last trailing (covered) byte changed -/
def img64' : Bytes := mkImg true 0 [1, 2, 3, 4, 6] []
/-- unsigned PE32 twin, 333 bytes (≡ 5 mod 8) -/
def img32 : Bytes := mkImg false 0 [1, 2, 3, 4, 5] []
/-- signed PE32+ image, 368 bytes: certificate table of 16 bytes at offset 352 -/
def img64s : Bytes :=
  mkImg true 0x1234 (zeros 8) (le32 16 ++ le16 0x0200 ++ le16 2 ++ [1, 2, 3, 4, 5, 6, 7, 8])
/-- the same with another CheckSum and other certificate bytes -/
def img64s' : Bytes :=
  mkImg true 0x9999 (zeros 8) (le32 16 ++ le16 0x0200 ++ le16 2 ++ [8, 7, 6, 5, 4, 3, 2, 1])

open Spec.PE

/-- all that is evaluated about `img64` and `img64'`, in one declaration so that the kernel builds each
    image once -/
theorem img64_facts : wfCheck img64 = true ∧ wfCheck img64' = true ∧ img64.length = 349 ∧
    img64'.length = 349 ∧ certSize img64 = 0 ∧ certSize img64' = 0 ∧
    classify img64 348 = .covered ∧ classify img64' 348 = .covered ∧ img64[348]? ≠ img64'[348]? := by
  decide +kernel

theorem wf_img64 : WF img64 := (wfCheck_iff _).mp img64_facts.1
theorem wf_img64' : WF img64' := (wfCheck_iff _).mp img64_facts.2.1
theorem length_img64 : img64.length = 349 := img64_facts.2.2.1
theorem length_img64' : img64'.length = 349 := img64_facts.2.2.2.1
theorem certSize_img64 : certSize img64 = 0 := img64_facts.2.2.2.2.1
theorem certSize_img64' : certSize img64' = 0 := img64_facts.2.2.2.2.2.1
theorem img64_differ : img64[348]? ≠ img64'[348]? := img64_facts.2.2.2.2.2.2.2.2

theorem covered_img64 : Covered img64 348 :=
  covered_of_classify (by rw [length_img64]; decide) img64_facts.2.2.2.2.2.2.1

theorem covered_img64' : Covered img64' 348 :=
  covered_of_classify (by rw [length_img64']; decide) img64_facts.2.2.2.2.2.2.2.1

theorem img32_facts : wfCheck img32 = true ∧ img32.length = 333 ∧ (layout img32).plus = false := by
  decide +kernel

theorem wf_img32 : WF img32 := (wfCheck_iff _).mp img32_facts.1

/-- likewise for `img64s` and `img64s'` -/
theorem img64s_facts : wfCheck img64s = true ∧ wfCheck img64s' = true ∧
    slice img64s 0 152 = slice img64s' 0 152 ∧ slice img64s 156 352 = slice img64s' 156 352 ∧
    (layout img64s).ck = 152 ∧ img64s.length = 368 ∧ img64s'.length = 368 ∧
    certAddr img64s = 352 ∧ certSize img64s = 16 ∧ certSize img64s' = 16 ∧
    img64s[152]? ≠ img64s'[152]? := by
  decide +kernel

theorem wf_img64s : WF img64s := (wfCheck_iff _).mp img64s_facts.1
theorem wf_img64s' : WF img64s' := (wfCheck_iff _).mp img64s_facts.2.1

/-- `img64s` and `img64s'` differ only inside CheckSum and inside the certificate table -/
theorem img64s_diff : ∀ p, img64s[p]? ≠ img64s'[p]? →
    ((layout img64s).ck ≤ p ∧ p < (layout img64s).ck + 4) ∨
    (img64s.length - certSize img64s ≤ p ∧ p < img64s.length) := by
  obtain ⟨_, _, s1, s2, hck, hl, hl', _, hc, _⟩ := img64s_facts
  intro p hne
  rw [hck, hl, hc]
  by_cases h1 : p < 152
  · exact absurd (agree_of_slice_eq s1 (Nat.zero_le _) h1) hne
  · by_cases h2 : 156 ≤ p ∧ p < 352
    · exact absurd (agree_of_slice_eq s2 h2.1 h2.2) hne
    · by_cases h3 : p < 368
      · omega
      · exfalso; apply hne
        rw [List.getElem?_eq_none (by omega), List.getElem?_eq_none (by omega)]

end PeExample
end GoUefi

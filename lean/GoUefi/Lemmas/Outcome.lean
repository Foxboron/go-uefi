import GoUefi.Base
import GoUefi.Lemmas.Bytes
/-!
  The two notions the totality properties (C13 / C14) rest on.

  `Outcome.Ensures P o`: the modelled Go call returned (a value or an error: no panic, no exit) and a value it
  returned satisfies `P`.  The models are built from `.ok`, `.err`, `if`, `match readN …` and the match that hands a
  callee's error, panic or exit on; `Ensures P` is closed under each, so a proof is a term that follows the definition.

  `fuel_irrel`: a loop on fuel gives one answer for every amount of fuel from a measure of its input on.
-/
namespace GoUefi

def Outcome.Ensures {α} (P : α → Prop) : Outcome α → Prop
  | .ok a => P a
  | .err => True
  | _ => False

namespace Outcome.Ensures
variable {α β : Type} {P : α → Prop} {Q : β → Prop}

theorem returns {o : Outcome α} (h : o.Ensures P) : o ≠ .panic ∧ o ≠ .exit := by
  cases o with
  | ok a => exact ⟨nofun, nofun⟩
  | err => exact ⟨nofun, nofun⟩
  | panic => exact False.elim h
  | exit => exact False.elim h

theorem returns_true {o : Outcome α} (h : o.Ensures P) : o.returns = true := by
  cases o with
  | ok a => rfl
  | err => rfl
  | panic => exact False.elim h
  | exit => exact False.elim h

theorem of_ok {o : Outcome α} {a : α} (h : o.Ensures P) (e : o = .ok a) : P a := by
  subst e
  exact h

theorem of_returns {o : Outcome α} (h : o ≠ .panic ∧ o ≠ .exit) : o.Ensures fun _ => True := by
  cases o with
  | ok a => trivial
  | err => trivial
  | panic => exact h.1 rfl
  | exit => exact h.2 rfl

theorem ok {a : α} (h : P a) : (Outcome.ok a).Ensures P := h

theorem err : (Outcome.err : Outcome α).Ensures P := trivial

theorem ite {c : Prop} [Decidable c] {a b : Outcome α} (ha : c → a.Ensures P) (hb : ¬ c → b.Ensures P) :
    (if c then a else b).Ensures P := by
  split
  · exact ha ‹_›
  · exact hb ‹_›

/-- an error check (`if c { return err }`): what follows it runs under the negated condition -/
theorem guard {c : Prop} [Decidable c] {b : Outcome α} (hb : ¬ c → b.Ensures P) :
    (if c then Outcome.err else b).Ensures P :=
  ite (fun _ => err) hb

/-- `ite` for branches that do not need the condition -/
theorem ite' {c : Prop} [Decidable c] {a b : Outcome α} (ha : a.Ensures P) (hb : b.Ensures P) :
    (if c then a else b).Ensures P :=
  ite (fun _ => ha) fun _ => hb

/-- Case analysis on a call that is known to return.  The models hand a callee's `.panic` and `.exit` on
    (`| .ok b => … | .err => .err | .panic => .panic | .exit => .exit`); of such a match only the first two branches
    are live.  The scrutinee has to occur in the goal as it is written here: `unfold` the caller first, and
    `dsimp only` a `let (x, y) := …` in front of the match.  (A lemma stated with a `match` of its own would not
    apply: every model has its own matcher, closed at its result type.) -/
@[elab_as_elim] theorem elim {o : Outcome β} {motive : Outcome β → Prop} (h : o.Ensures Q)
    (ok : ∀ b, Q b → motive (.ok b)) (err : motive .err) : motive o := by
  cases o with
  | ok b => exact ok b h
  | err => exact err
  | panic => exact False.elim h
  | exit => exact False.elim h

/-- `binary.Read` of `n` bytes: an error, or `n` bytes and what is behind them -/
theorem readN {n : Nat} {bs : Bytes} {f : Bytes → Bytes → Outcome α}
    (hf : ∀ x r, bs = x ++ r → x.length = n → (f x r).Ensures P) :
    (match GoUefi.readN n bs with
      | .error _ => Outcome.err
      | .ok (x, r) => f x r).Ensures P := by
  split
  · trivial
  · rename_i h
    exact hf _ _ (readN_ok h).1 (readN_ok h).2

theorem mono {o : Outcome α} (h : o.Ensures P) {P' : α → Prop} (hpq : ∀ a, P a → P' a) : o.Ensures P' :=
  h.elim (fun a ha => .ok (hpq a ha)) .err

/-- the postcondition may also say which value it is about: for use before `elim`/`mono`, whose continuation sees only
    the value `a`, when the proof needs the equation `o = .ok a` as well -/
theorem and_eq {o : Outcome α} (h : o.Ensures P) : o.Ensures fun a => o = .ok a ∧ P a := by
  cases o with
  | ok a => exact ⟨rfl, h⟩
  | err => trivial
  | panic => exact h
  | exit => exact h

end Outcome.Ensures

/-- A loop on fuel whose `(f+1)`-st approximation consults the `f`-th one only at states of smaller measure `μ`, and
    which does not look at its fuel at measure 0, gives one answer for every amount of fuel from the measure on.
    (With a measure of the form `… + 1` the hypothesis `zero` is vacuous.) -/
theorem fuel_irrel {σ β : Type} {loop : Nat → σ → β} (μ : σ → Nat)
    (zero : ∀ f x, μ x = 0 → loop f x = loop 0 x)
    (step : ∀ f f' x, (∀ y, μ y < μ x → loop f y = loop f' y) → loop (f + 1) x = loop (f' + 1) x) :
    ∀ f f' x, μ x ≤ f → μ x ≤ f' → loop f x = loop f' x := by
  intro f
  induction f with
  | zero =>
    intro f' x h _
    exact (zero f' x (Nat.le_zero.1 h)).symm
  | succ f ih =>
    intro f' x h h'
    cases f' with
    | zero => exact zero _ x (Nat.le_zero.1 h')
    | succ f' =>
      exact step f f' x fun y hy =>
        ih f' y (Nat.le_of_lt_succ (Nat.lt_of_lt_of_le hy h)) (Nat.le_of_lt_succ (Nat.lt_of_lt_of_le hy h'))

end GoUefi

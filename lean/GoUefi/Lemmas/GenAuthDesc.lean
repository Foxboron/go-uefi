import GoUefi.Gen
import GoUefi.Lemmas.AuthDesc
import GoUefi.Lemmas.GenCodec
/-!
  The translated WIN_CERTIFICATE / AUTHENTICATION_2 readers and writers of `GoUefi/Gen.lean`
  (efi/signature/varsign.go) against the Impl model (`GoUefi/Model/AuthDesc.lean`).
  The abstraction `C10.absWC`, `C10.absWCG`, `C10.absAuth` takes integers to `Nat`, the type GUID and the
  EFI_TIME struct to their 16 wire bytes (`C10.gwG`, `C10.timeWire`).
-/
namespace GoUefi.C10
open GoUefi GoUefi.Gen

def gwG (g : util.EFIGUID) : Bytes := guidWire ⟨g.Data1.toNat, g.Data2.toNat, g.Data3.toNat, g.Data4⟩
def absWC (w : signature.WINCertificate) : Impl.WinCert :=
  ⟨w.Length.toNat, w.Revision.toNat, w.CertType.toNat, w.Certificate⟩
def absWCG (w : signature.WinCertificateUEFIGUID) : Impl.WinCertGuid :=
  ⟨absWC w.Header, gwG w.CertType, w.CertData⟩
/-- the 16 wire bytes of an EFI_TIME value (what `binary.Write` emits for it) -/
def timeWire (t : util.EFITime) : Bytes := encLE_util_EFITime t
def absAuth (a : signature.EFIVariableAuthentication2) : Impl.AuthDesc := ⟨timeWire a.Time, absWCG a.AuthInfo⟩

end GoUefi.C10

namespace GoUefi.GenAuthDesc
open GoUefi GoUefi.Gen GoUefi.GenCodec GoUefi.C10

theorem goWrap_isSome (s : String) : (goWrap (some s)).isSome = true := rfl

/-! ### the EFI_TIME struct codec -/

theorem encLE_time_length (t : util.EFITime) : (encLE_util_EFITime t).length = 16 := by
  simp only [encLE_util_EFITime, List.length_append]; rfl

/-- every field round-trips on its slice, and the slices are consecutive pieces of the 16 bytes -/
theorem encLE_decLE_time (b : List UInt8) (h : b.length = 16) :
    encLE_util_EFITime (decLE_util_EFITime b) = b := by
  have l : ∀ i k, i + k ≤ 16 → ((b.drop i).take k).length = k := fun i k hik =>
    List.length_take_of_le (by rw [List.length_drop, h]; exact Nat.le_sub_of_add_le' hik)
  have u : ∀ i, i + 1 ≤ 16 → encU8 (decU8 ((b.drop i).take 1)) = (b.drop i).take 1 := fun i hi =>
    encU8_decU8 _ (l i 1 hi)
  unfold encLE_util_EFITime decLE_util_EFITime
  rw [encLE16_decLE16 _ (l 0 2 (by decide)), encLE32_decLE32 _ (l 8 4 (by decide)),
    encLEi16_decLEi16 _ (l 12 2 (by decide)), u 2 (by decide), u 3 (by decide), u 4 (by decide), u 5 (by decide),
    u 6 (by decide), u 7 (by decide), u 14 (by decide), u 15 (by decide)]
  simp only [List.drop_zero, ← List.take_add, Nat.reduceAdd]
  exact List.take_of_length_le (Nat.le_of_eq h)

/-- `binary.Read` of the 16 bytes that `binary.Write` emits for an EFI_TIME gives the value back -/
theorem decLE_encLE_time (t : util.EFITime) : decLE_util_EFITime (encLE_util_EFITime t) = t := by
  obtain ⟨y, mo, d, h, mi, s, p1, n, tz, dl, p2⟩ := t
  have e16 := decLE16_encLE16 y
  have e32 := decLE32_encLE32 n
  have ei := decLEi16_encLEi16 tz
  unfold encLEi16 at ei
  unfold encLE16 at e16 ei
  unfold encLE32 at e32
  simp only [encLE_util_EFITime, decLE_util_EFITime, encLE16, encLE32, encLEi16, encU8, List.cons_append,
    List.nil_append, List.drop_succ_cons, List.drop_zero, List.take_succ_cons, List.take_zero, e16, e32, ei]
  rfl

/-! ### readers

Each statement gives the model's reader as a function (`absRead`) of what the translated reader returns.  Both sides are
unfolded once.  Each read is one `readBytes_cases`; the translated reader is simplified when the outcome of every read on
the path is known, and `↓reduceIte` settles each `if` from its condition without entering the branch not taken. -/

/-- what a reader of the model answers when the translated reader returned `r`: the abstraction of the value and the
    same rest, or an error -/
def absRead {α β : Type} (abs : α → β) : List UInt8 × α × GoErr → Outcome (β × Bytes)
  | (rest, w, none) => .ok (abs w, rest)
  | (_, _, some _) => .err

/-- `!=` on `uint16` is `≠` of the numbers -/
theorem bne16_iff (x y : UInt16) : (x != y) = true ↔ x.toNat ≠ y.toNat :=
  bne_iff_ne.trans (not_congr UInt16.toNat_inj.symm)

theorem readWinCert_model (f : List UInt8) :
    Impl.readWinCert f = absRead absWC (signature.ReadWinCertificate f) := by
  unfold Impl.readWinCert signature.ReadWinCertificate
  rcases readBytes_cases 4 f with ⟨e, s, hm1, hs1⟩ | ⟨l, r1, hm1, hl, hs1⟩
  · rw [hm1, hs1]
    rfl
  rcases readBytes_cases 2 r1 with ⟨e, s, hm2, hs2⟩ | ⟨rv, r2, hm2, hrv, hs2⟩
  · simp only [hm1, hs1, hm2, hs2, Option.isSome_none, Option.isSome_some, Bool.false_eq_true, ↓reduceIte]
    rfl
  rcases readBytes_cases 2 r2 with ⟨e, s, hm3, hs3⟩ | ⟨ct, r3, hm3, hct, hs3⟩
  · simp only [hm1, hs1, hm2, hs2, hm3, hs3, Option.isSome_none, Option.isSome_some, Bool.false_eq_true, ↓reduceIte]
    rfl
  simp only [hm1, hs1, hm2, hs2, hm3, hs3, Option.isSome_none, Option.isNone_none, Bool.false_eq_true, ↓reduceIte]
  -- the three checks: the code's condition on `decLE16`/`decLE32` is the model's on `rd16`/`rd32`
  have eL := decLE32_toNat l hl
  have eR := decLE16_toNat rv hrv
  have e1 : (decLE16 rv != signature.WIN_CERTIFICATE_REVISION) = true ↔ rd16 rv ≠ Impl.winCertRevision := by
    rw [bne16_iff, eR]
    exact Iff.rfl
  have e2 : decLE32 l < 8 ↔ rd32 l < 8 := by
    rw [UInt32.lt_iff_toNat_lt, eL]
    rfl
  by_cases c1 : rd16 rv ≠ Impl.winCertRevision
  · rw [if_pos c1, if_pos (e1.mpr c1)]
    rfl
  rw [if_neg c1, if_neg (mt e1.mp c1)]
  by_cases c2 : rd32 l < 8
  · rw [if_pos c2, if_pos (decide_eq_true (e2.mpr c2))]
    rfl
  have c2' : ¬ decLE32 l < 8 := mt e2.mp c2
  rw [if_neg c2, if_neg (mt of_decide_eq_true c2')]
  have ek : (decLE32 l - 8).toNat = rd32 l - 8 := by
    rw [UInt32.toNat_sub_of_le _ _ (UInt32.not_lt.mp c2'), eL]
    rfl
  simp only [ek, readUpTo, Int.toNat_natCast, Int.ofNat_eq_natCast, Bool.true_and]
  by_cases c3 : r3.length < rd32 l - 8
  · -- the limited reader delivered all of `r3`: fewer bytes than wanted
    have n : ((r3.take (rd32 l - 8)).length : Int) ≠ (rd32 l - 8 : Nat) := by
      rw [List.take_of_length_le (Nat.le_of_lt c3)]
      exact mt Int.natCast_inj.mp (Nat.ne_of_lt c3)
    rw [if_pos c3, if_pos (bne_iff_ne.mpr n)]
    rfl
  rw [if_neg c3, List.length_take_of_le (Nat.not_lt.mp c3)]
  simp only [bne_self_eq_false, Option.isSome_none, Bool.false_eq_true, ↓reduceIte, absRead, absWC, eL, eR,
    decLE16_toNat ct hct]

theorem readWinCertGuid_model (f : List UInt8) :
    Impl.readWinCertGuid f = absRead absWCG (signature.ReadWinCertificateUEFIGUID f) := by
  unfold Impl.readWinCertGuid signature.ReadWinCertificateUEFIGUID
  rw [readWinCert_model f]
  rcases signature.ReadWinCertificate f with ⟨rest, gw, _ | e⟩
  · by_cases c : gw.Certificate.length < 16
    · obtain ⟨s, hs⟩ := readBytes_short (n := 16) c
      simp only [hs, Option.isSome_none, Option.isSome_some, Bool.false_eq_true, ↓reduceIte, absRead]
      rw [if_pos (show (absWC gw).cert.length < 16 from c)]
      rfl
    · have h16 : (gw.Certificate.take 16).length = 16 := List.length_take_of_le (Nat.not_lt.mp c)
      have hall : readBytes (gw.Certificate.drop 16).length (gw.Certificate.drop 16) =
          (gw.Certificate.drop 16, [], none) := readBytes_all _
      simp only [readBytes_of_le (Nat.not_lt.mp c), Option.isSome_none, Option.isNone_none, Bool.false_eq_true,
        ↓reduceIte, lenI_eq, Int.toNat_natCast, List.length_replicate, hall, absRead, absWCG, gwG, ← encLE_guid_eq,
        encLE_decLE_guid _ h16]
      rw [if_neg (show ¬ (absWC gw).cert.length < 16 from c)]
      rfl
  · rfl

theorem readAuth_model (f : List UInt8) :
    Impl.readAuth f = absRead absAuth (signature.ReadEFIVariableAuthencation2 f) := by
  unfold Impl.readAuth signature.ReadEFIVariableAuthencation2
  rcases readBytes_cases 16 f with ⟨e, s, hm, hs⟩ | ⟨t, r1, hm, ht, hs⟩
  · rw [hm, hs]
    rfl
  simp only [hm, hs, Option.isSome_none, Option.isNone_none, Bool.false_eq_true, ↓reduceIte]
  rw [readWinCertGuid_model r1]
  rcases signature.ReadWinCertificateUEFIGUID r1 with ⟨rest, gw, _ | e⟩
  · simp only [Option.isSome_none, Bool.false_eq_true, ↓reduceIte, absRead]
    have e : (gw.Header.CertType != signature.WIN_CERT_TYPE_EFI_GUID) = true ↔
        (absWCG gw).hdr.ctype ≠ Impl.winCertTypeEfiGuid :=
      bne16_iff _ _
    by_cases c : (absWCG gw).hdr.ctype ≠ Impl.winCertTypeEfiGuid
    · rw [if_pos c, if_pos (e.mpr c)]
      rfl
    · rw [if_neg c, if_neg (mt e.mp c)]
      simp only [absAuth, timeWire, encLE_decLE_time t ht]
  · rfl

/-! ### writers -/

theorem writeWinCert_tie (b : List UInt8) (w : signature.WINCertificate) :
    signature.WriteWinCertificate b w = b ++ Impl.writeWinCert (absWC w) := by
  simp only [signature.WriteWinCertificate, Impl.writeWinCert, absWC, decBytes, encLE32_eq, encLE16_eq,
    List.append_assoc]

theorem writeWinCertGuid_tie (b : List UInt8) (w : signature.WinCertificateUEFIGUID) :
    signature.WriteWinCertificateUEFIGUID b w = b ++ Impl.writeWinCertGuid (absWCG w) := by
  simp only [signature.WriteWinCertificateUEFIGUID, writeWinCert_tie, Impl.writeWinCertGuid, absWCG, gwG,
    decBytes, encLE_guid_eq, List.append_assoc]

theorem writeAuth_tie (b : List UInt8) (a : signature.EFIVariableAuthentication2) :
    signature.WriteEFIVariableAuthencation2 b a = b ++ Impl.writeAuth (absAuth a) := by
  simp only [signature.WriteEFIVariableAuthencation2, writeWinCertGuid_tie, Impl.writeAuth, absAuth, timeWire,
    List.append_assoc]

theorem marshal_tie (b : List UInt8) (a : signature.EFIVariableAuthentication2) :
    a.Marshal b = b ++ Impl.writeAuth (absAuth a) := writeAuth_tie b a

/-! ### the abstraction is injective, so the two readers succeed together, with the same value and rest -/

theorem absWC_inj {w w' : signature.WINCertificate} (h : absWC w = absWC w') : w = w' := by
  obtain ⟨l, r, c, cert⟩ := w
  obtain ⟨l', r', c', cert'⟩ := w'
  simp only [absWC, Impl.WinCert.mk.injEq] at h
  obtain ⟨hl, hr, hc, rfl⟩ := h
  rw [UInt32.toNat_inj.mp hl, UInt16.toNat_inj.mp hr, UInt16.toNat_inj.mp hc]

/-- … also for a type GUID whose `Data4` does not have 8 bytes (`encLE_guid_inj`); the EFI_TIME codec has a left
    inverse -/
theorem absAuth_inj {a a' : signature.EFIVariableAuthentication2} (e : absAuth a = absAuth a') : a = a' := by
  obtain ⟨t, ⟨hdr, g, data⟩⟩ := a
  obtain ⟨t', ⟨hdr', g', data'⟩⟩ := a'
  simp only [absAuth, timeWire, absWCG, Impl.AuthDesc.mk.injEq, Impl.WinCertGuid.mk.injEq] at e
  obtain ⟨et, eh, eg, rfl⟩ := e
  rw [absWC_inj eh, encLE_guid_inj (a := g) (b := g') eg, ← decLE_encLE_time t, et, decLE_encLE_time]

theorem absRead_eq_ok {α β : Type} {abs : α → β} (inj : ∀ {a a'}, abs a = abs a' → a = a')
    {r : List UInt8 × α × GoErr} {rest : List UInt8} {w : α} :
    absRead abs r = .ok (abs w, rest) ↔ r = (rest, w, none) := by
  constructor
  · rcases r with ⟨rest', w', _ | e⟩
    · intro h
      injection h with h
      injection h with hw hrest
      rw [inj hw, hrest]
    · exact nofun
  · intro hr
    rw [hr, absRead]

theorem readWinCert_tie_iff {t rest : List UInt8} {w : signature.WINCertificate} :
    signature.ReadWinCertificate t = (rest, w, none) ↔ Impl.readWinCert t = .ok (absWC w, rest) := by
  rw [readWinCert_model, absRead_eq_ok absWC_inj]

theorem readAuth_tie_iff {f rest : List UInt8} {ga : signature.EFIVariableAuthentication2} :
    signature.ReadEFIVariableAuthencation2 f = (rest, ga, none) ↔ Impl.readAuth f = .ok (absAuth ga, rest) := by
  rw [readAuth_model, absRead_eq_ok absAuth_inj]

theorem read_writeWinCert (w : signature.WINCertificate) (rest : List UInt8) (h : (absWC w).WF) :
    signature.ReadWinCertificate (Impl.writeWinCert (absWC w) ++ rest) = (rest, w, none) :=
  readWinCert_tie_iff.mpr (Impl.readWinCert_eq_ok.mpr ⟨h, rfl⟩)

theorem read_marshal (a : signature.EFIVariableAuthentication2) (rest : List UInt8) (h : (absAuth a).WF) :
    signature.ReadEFIVariableAuthencation2 (a.Marshal [] ++ rest) = (rest, a, none) := by
  rw [marshal_tie, List.nil_append]
  exact readAuth_tie_iff.mpr (Impl.readAuth_eq_ok.mpr ⟨h, rfl⟩)

end GoUefi.GenAuthDesc

import GoUefi.Gen
import GoUefi.Model.SigDb
import GoUefi.Lemmas.GenCodec
/-!
  The abstraction from the translated signature-database values to the hand-written model (GUIDs to their 16 wire
  bytes, `uint32` fields to `Nat`): `gw`, `absSD`, `absL`, `absDb`, with the side condition `GuidOK` / `ListOK` / `DbOK`
  (`Data4` has 8 bytes: a Go `[8]uint8` always has, the translation uses a list), and what the abstraction does to GUIDs
  and fields.  The refinement theorems over it are in `Properties/C09g.lean` (operations) and `Properties/C08g.lean`
  (codec, through `Lemmas/GenReaders.lean`).
-/
namespace GoUefi.C09
open GoUefi GoUefi.Gen

/-- EFI wire form of a translated GUID value -/
def gw (g : util.EFIGUID) : Bytes := guidWire ⟨g.Data1.toNat, g.Data2.toNat, g.Data3.toNat, g.Data4⟩
def GuidOK (g : util.EFIGUID) : Prop := g.Data4.length = 8
def absSD (s : signature.SignatureData) : Impl.SData := ⟨gw s.Owner, s.Data⟩
def absL (l : signature.SignatureList) : Impl.SList :=
  ⟨gw l.SignatureType, l.ListSize.toNat, l.HeaderSize.toNat, l.Size.toNat, l.SignatureHeader,
    l.Signatures.map absSD⟩
def absDb (db : signature.SignatureDatabase) : Impl.Db := db.map absL
def ListOK (l : signature.SignatureList) : Prop :=
  GuidOK l.SignatureType ∧ ∀ s ∈ l.Signatures, GuidOK s.Owner
def DbOK (db : signature.SignatureDatabase) : Prop := ∀ l ∈ db, ListOK l

/-! ### GUIDs -/

/-- `gw g` is what `binary.Write` emits for `g` (`GenCodec.encLE_guid_eq`), which determines the value -/
@[simp] theorem gw_inj {a b : util.EFIGUID} : gw a = gw b ↔ a = b := ⟨GenCodec.encLE_guid_inj, congrArg gw⟩

theorem gw_length {g : util.EFIGUID} (h : GuidOK g) : (gw g).length = 16 :=
  (GenCodec.encLE_guid_length g).trans (congrArg (8 + ·) h)

/-! the three list types the decoder handles: the translated constants are the model's -/

theorem gw_x509 : gw signature.CERT_X509_GUID = Impl.guidX509 := by decide +kernel
theorem gw_sha256 : gw signature.CERT_SHA256_GUID = Impl.guidSha256 := by decide +kernel
theorem gw_external : gw signature.CERT_EXTERNAL_MANAGEMENT_GUID = Impl.guidExternal := by decide +kernel

theorem gw_eq_iff {t c : util.EFIGUID} {m : Bytes} (h : gw c = m) : gw t = m ↔ t = c := by
  rw [← h, gw_inj]

/-! ### the abstraction, field by field -/

theorem absSD_injective {a b : signature.SignatureData} (h : absSD a = absSD b) : a = b := by
  cases a; cases b
  simp only [absSD, Impl.SData.mk.injEq, gw_inj] at h
  rw [h.1, h.2]

@[simp] theorem absL_type (l : signature.SignatureList) : (absL l).type = gw l.SignatureType := rfl
@[simp] theorem absL_size (l : signature.SignatureList) : (absL l).size = l.Size.toNat := rfl
@[simp] theorem absL_listSize (l : signature.SignatureList) : (absL l).listSize = l.ListSize.toNat := rfl
@[simp] theorem absL_sigs (l : signature.SignatureList) : (absL l).sigs = l.Signatures.map absSD := rfl
@[simp] theorem absDb_nil : absDb [] = [] := rfl

theorem absDb_append (a b : signature.SignatureDatabase) : absDb (a ++ b) = absDb a ++ absDb b := by
  simp [absDb]

theorem absDb_cons (l : signature.SignatureList) (ls : signature.SignatureDatabase) :
    absDb (l :: ls) = absL l :: absDb ls := rfl

attribute [simp] absDb_append absDb_cons

end GoUefi.C09

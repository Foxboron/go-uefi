import GoUefi.Base
/-!
  General facts about the byte-string vocabulary of `GoUefi/Base.lean`, shared by all property proofs; nothing here
  mentions a model.  By subject:

  * bytes as numbers below 256; the lengths of the fixed-width codecs;
  * base-256 numerals of any width (`leVal`, `leDigits`), from which the round trips and bounds of
    `le16`/`le32`/`be16`/`be32` against `rd16`/`rd32`/`rdBe16`/`rdBe32` follow;
  * cutting a list into consecutive pieces (`take`/`drop`/`++`);
  * `readN` (one equation, and its inversion);
  * `pad8`;
  * `slice`: length, entries, congruence, behaviour on `++`;
  * `byteAt`/`le16At`/`le32At`: they depend only on the bytes they read, and do not see zero padding;
  * `pairs_fuel`: the induction for a loop on fuel that takes a byte string two bytes a turn.
-/
namespace GoUefi

/-! ### bytes as numbers -/

theorem toUInt8_toNat_of_lt (m : Nat) (h : m < 256) : m.toUInt8.toNat = m :=
  UInt8.toNat_ofNat_of_lt' h

theorem toNat_toUInt8 (a : UInt8) : a.toNat.toUInt8 = a := UInt8.ofNat_toNat

/-! ### lengths of the fixed-width codecs and of `zeros` -/

@[simp] theorem le16_length (n : Nat) : (le16 n).length = 2 := rfl
@[simp] theorem le32_length (n : Nat) : (le32 n).length = 4 := rfl
@[simp] theorem be16_length (n : Nat) : (be16 n).length = 2 := rfl
@[simp] theorem be32_length (n : Nat) : (be32 n).length = 4 := rfl
@[simp] theorem zeros_length (k : Nat) : (zeros k).length = k := by simp [zeros]

/-! ### base-256 numerals of any width

`le16`/`le32` write the 2 resp. 4 low digits of a number, `rd16`/`rd32` read such a numeral; the
big-endian codecs are the same on the reversed list. The round trips are proved once, digit by digit. -/

/-- value of a little-endian base-256 numeral -/
def leVal : Bytes → Nat
  | [] => 0
  | a :: r => a.toNat + 256 * leVal r

/-- the `k` low base-256 digits of `n`, least significant first -/
def leDigits : Nat → Nat → Bytes
  | 0, _ => []
  | k + 1, n => (n % 256).toUInt8 :: leDigits k (n / 256)

theorem leDigits_leVal : ∀ b : Bytes, leDigits b.length (leVal b) = b
  | [] => rfl
  | a :: r => by
    have h := a.toNat_lt
    rw [leVal, List.length_cons, leDigits, Nat.add_mul_mod_self_left, Nat.mod_eq_of_lt h, toNat_toUInt8,
      Nat.add_mul_div_left _ _ (by decide), Nat.div_eq_of_lt h, Nat.zero_add, leDigits_leVal r]

theorem leVal_leDigits : ∀ k n, leVal (leDigits k n) = n % 256 ^ k
  | 0, n => by rw [Nat.pow_zero, Nat.mod_one]; rfl
  | k + 1, n => by
    rw [leDigits, leVal, leVal_leDigits k, toUInt8_toNat_of_lt _ (Nat.mod_lt _ (by decide)), Nat.pow_succ,
      Nat.mul_comm (256 ^ k), Nat.mod_mul]

theorem le16_eq (n : Nat) : le16 n = leDigits 2 n := rfl

theorem le32_eq (n : Nat) : le32 n = leDigits 4 n := by
  simp only [le32, leDigits, Nat.div_div_eq_div_mul]

theorem rd16_eq : ∀ b : Bytes, b.length = 2 → rd16 b = leVal b
  | [a, b], _ => by simp only [rd16, leVal, Nat.mul_zero, Nat.add_zero]

theorem rd32_eq : ∀ b : Bytes, b.length = 4 → rd32 b = leVal b
  | [a, b, c, d], _ => by
    -- the Horner form multiplied out
    simp only [rd32, leVal, Nat.mul_add, ← Nat.mul_assoc, Nat.reduceMul, Nat.mul_zero, Nat.add_zero, Nat.add_assoc]

theorem be16_eq (n : Nat) : be16 n = (le16 n).reverse := rfl

theorem be32_eq (n : Nat) : be32 n = (le32 n).reverse := rfl

theorem rdBe16_eq : ∀ b : Bytes, b.length = 2 → rdBe16 b = rd16 b.reverse
  | [_, _], _ => Nat.add_comm _ _

theorem rdBe32_eq : ∀ b : Bytes, b.length = 4 → rdBe32 b = rd32 b.reverse
  | [a, b, c, d], _ => by
    show _ = rd32 [d, c, b, a]
    simp only [rd32, rdBe32]
    ac_rfl

theorem rd32_le32 (n : Nat) (h : n < 2^32) : rd32 (le32 n) = n := by
  rw [rd32_eq _ rfl, le32_eq, leVal_leDigits, Nat.mod_eq_of_lt h]

theorem rd16_le16 (n : Nat) (h : n < 2^16) : rd16 (le16 n) = n := by
  rw [rd16_eq _ rfl, le16_eq, leVal_leDigits, Nat.mod_eq_of_lt h]

theorem rdBe32_be32 (n : Nat) (h : n < 2^32) : rdBe32 (be32 n) = n := by
  rw [rdBe32_eq _ rfl, be32_eq, List.reverse_reverse, rd32_le32 n h]

theorem rdBe16_be16 (n : Nat) (h : n < 2^16) : rdBe16 (be16 n) = n := by
  rw [rdBe16_eq _ rfl, be16_eq, List.reverse_reverse, rd16_le16 n h]

theorem le32_rd32 (b : Bytes) (h : b.length = 4) : le32 (rd32 b) = b := by
  rw [rd32_eq b h, le32_eq, ← h, leDigits_leVal]

theorem le16_rd16 (b : Bytes) (h : b.length = 2) : le16 (rd16 b) = b := by
  rw [rd16_eq b h, le16_eq, ← h, leDigits_leVal]

theorem be32_rdBe32 (b : Bytes) (h : b.length = 4) : be32 (rdBe32 b) = b := by
  rw [rdBe32_eq b h, be32_eq, le32_rd32 _ (by rw [List.length_reverse, h]), List.reverse_reverse]

theorem be16_rdBe16 (b : Bytes) (h : b.length = 2) : be16 (rdBe16 b) = b := by
  rw [rdBe16_eq b h, be16_eq, le16_rd16 _ (by rw [List.length_reverse, h]), List.reverse_reverse]

/-- only the four low digits are written -/
theorem le32_mod (n : Nat) : le32 (n % 2^32) = le32 n := by
  rw [← le32_rd32 (le32 n) rfl, rd32_eq _ rfl, le32_eq n, leVal_leDigits]

theorem rd32_lt (b : Bytes) : rd32 b < 2^32 := by
  unfold rd32
  split
  · rename_i a b c d
    have ha := a.toNat_lt; have hb := b.toNat_lt; have hc := c.toNat_lt; have hd := d.toNat_lt
    omega
  · omega

theorem rd16_lt (b : Bytes) : rd16 b < 2^16 := by
  unfold rd16
  split
  · rename_i a b
    have ha := a.toNat_lt; have hb := b.toNat_lt
    omega
  · omega

theorem rdBe32_lt (b : Bytes) : rdBe32 b < 2^32 := by
  unfold rdBe32
  split
  · rename_i a b c d
    show rdBe32 [a, b, c, d] < 2 ^ 32
    rw [rdBe32_eq _ rfl]
    exact rd32_lt _
  · omega

theorem rdBe16_lt (b : Bytes) : rdBe16 b < 2^16 := by
  unfold rdBe16
  split
  · rename_i a b
    show rdBe16 [a, b] < 2 ^ 16
    rw [rdBe16_eq _ rfl]
    exact rd16_lt _
  · omega

theorem leVal_append (a b : Bytes) : leVal (a ++ b) = leVal a + 256 ^ a.length * leVal b := by
  induction a with
  | nil => simp [leVal]
  | cons x xs ih =>
    rw [List.cons_append, leVal, ih, leVal, List.length_cons, Nat.pow_succ', Nat.mul_add, Nat.mul_assoc,
      Nat.add_assoc]

theorem leDigits_succ (k n : Nat) : leDigits (k + 1) n = leDigits k n ++ [(n / 256 ^ k % 256).toUInt8] := by
  induction k generalizing n with
  | zero => simp [leDigits]
  | succ k ih => rw [leDigits, ih, leDigits, List.cons_append, Nat.div_div_eq_div_mul, ← Nat.pow_succ']

/-! ### consecutive pieces of a list -/

theorem take_drop_append {α : Type} (b : List α) (i k : Nat) :
    (b.drop i).take k ++ b.drop (i + k) = b.drop i := by
  rw [← List.drop_drop, List.take_append_drop]

theorem exists_take {bs : Bytes} {n : Nat} (h : n ≤ bs.length) :
    ∃ x r : Bytes, bs = x ++ r ∧ x.length = n :=
  ⟨bs.take n, bs.drop n, (List.take_append_drop n bs).symm, List.length_take_of_le h⟩

theorem getElem?_mid (a x r : Bytes) (k : Nat) (hk : k < x.length) :
    (a ++ (x ++ r))[a.length + k]? = x[k]? := by
  rw [List.getElem?_append_right (by omega), Nat.add_sub_cancel_left, List.getElem?_append_left hk]

/-- the length of a concatenation of pieces of one length -/
theorem length_flatten_map {α β : Type} (f : α → List β) {n : Nat} (xs : List α)
    (h : ∀ x ∈ xs, (f x).length = n) : ((xs.map f).flatten).length = xs.length * n := by
  induction xs with
  | nil => simp
  | cons x xs ih =>
    rw [List.map_cons, List.flatten_cons, List.length_append, h x List.mem_cons_self,
      ih (fun y hy => h y (List.mem_cons_of_mem _ hy)), List.length_cons, Nat.succ_mul, Nat.add_comm]

/-- pieces of 4, 2 and 2 bytes and a rest, cut out of their concatenation again -/
theorem split4 (a b c d : Bytes) (ha : a.length = 4) (hb : b.length = 2) (hc : c.length = 2) :
    (a ++ b ++ c ++ d).take 4 = a ∧ ((a ++ b ++ c ++ d).drop 4).take 2 = b ∧
    ((a ++ b ++ c ++ d).drop 6).take 2 = c ∧ (a ++ b ++ c ++ d).drop 8 = d := by
  refine ⟨?_, ?_, ?_, ?_⟩
  · rw [List.append_assoc, List.append_assoc]; exact List.take_left' ha
  · rw [List.append_assoc, List.append_assoc, List.drop_left' ha]; exact List.take_left' hb
  · have : (a ++ b).length = 6 := by simp [ha, hb]
    rw [List.append_assoc, List.drop_left' this]; exact List.take_left' hc
  · have : (a ++ b ++ c).length = 8 := by simp [ha, hb, hc]
    exact List.drop_left' this

/-- a 16-byte string is its pieces of 4, 2, 2 and 8 bytes -/
theorem join4 (bs : Bytes) (h : bs.length = 16) :
    bs.take 4 ++ (bs.drop 4).take 2 ++ (bs.drop 6).take 2 ++ (bs.drop 8).take 8 = bs := by
  rw [List.take_of_length_le (l := bs.drop 8) (by rw [List.length_drop]; omega),
    ← List.drop_drop (i := 2) (j := 6), List.append_assoc, List.take_append_drop,
    ← List.drop_drop (i := 2) (j := 4), List.append_assoc, List.take_append_drop, List.take_append_drop]

/-- … and the first three have their widths as soon as 16 bytes are there -/
theorem join4_lengths (bs : Bytes) (h : 16 ≤ bs.length) :
    (bs.take 4).length = 4 ∧ ((bs.drop 4).take 2).length = 2 ∧ ((bs.drop 6).take 2).length = 2 := by
  simp only [List.length_take, List.length_drop]
  omega

/-- a field of known width at offset `i`, and what follows it -/
theorem cut_field {bs x y : Bytes} {i n : Nat} (h : bs.drop i = x ++ y) (hn : x.length = n) :
    (bs.drop i).take n = x ∧ bs.drop (i + n) = y := by
  rw [← List.drop_drop, h]
  exact ⟨List.take_left' hn, List.drop_left' hn⟩

/-! ### `readN` -/

/-- `readN` in one equation (also for `n = 0`) -/
theorem readN_eq (n : Nat) (r : Bytes) :
    readN n r = if r.length < n then .error (if r = [] then .eof else .unexpectedEof)
      else .ok (r.take n, r.drop n) := by
  unfold readN
  by_cases h0 : n = 0
  · subst h0; simp
  by_cases h1 : r = []
  · subst h1; simp [h0]
  · rw [if_neg h0, if_neg h1]; split <;> simp

theorem readN_ok {n bs x rest} (h : readN n bs = .ok (x, rest)) : bs = x ++ rest ∧ x.length = n := by
  rw [readN_eq] at h
  split at h
  · nomatch h
  · rename_i hn
    cases h
    exact ⟨(List.take_append_drop n bs).symm, List.length_take_of_le (Nat.not_lt.mp hn)⟩

theorem readN_len {n : Nat} (x rest : Bytes) (h : x.length = n) : readN n (x ++ rest) = .ok (x, rest) := by
  rw [readN_eq, if_neg (by rw [List.length_append, h]; omega), List.take_left' h, List.drop_left' h]

theorem readN_eof {n : Nat} {bs : Bytes} (h : readN n bs = .error .eof) : bs = [] := by
  rw [readN_eq] at h
  split at h
  · apply Decidable.byContradiction
    intro hne
    rw [if_neg hne] at h
    nomatch h
  · nomatch h

/-- a computation that begins with `readN` and succeeds has read `n` bytes and gone on with what is
    behind them (`unfold` the reader first: the match has to be visible) -/
theorem readN_bind_ok {ε α : Type} {n : Nat} {bs : Bytes} {g : RErr → ε}
    {f : Bytes → Bytes → Except ε α} {a : α}
    (h : (match readN n bs with
      | .error e => Except.error (g e)
      | .ok (x, r) => f x r) = Except.ok a) :
    ∃ x r, bs = x ++ r ∧ x.length = n ∧ f x r = .ok a := by
  split at h
  · nomatch h
  · rename_i x r h1
    exact ⟨x, r, (readN_ok h1).1, (readN_ok h1).2, h⟩

/-! ### `pad8` -/

theorem pad8_lt (k : Nat) : pad8 k < 8 := Nat.mod_lt _ (by decide)
theorem add_pad8_mod (k : Nat) : (k + pad8 k) % 8 = 0 := by unfold pad8; omega
theorem pad8_eq_zero {n : Nat} (h : n % 8 = 0) : pad8 n = 0 := by rw [pad8, h]

/-! ### `slice` -/

@[simp] theorem slice_length (b : Bytes) (i j : Nat) : (slice b i j).length = min j b.length - i := by
  simp [slice]

theorem slice_length_le (b : Bytes) (i j : Nat) : (slice b i j).length ≤ j - i := by
  rw [slice_length]
  exact Nat.sub_le_sub_right (Nat.min_le_left ..) i

theorem slice_length_le_length (b : Bytes) (i j : Nat) : (slice b i j).length ≤ b.length := by
  rw [slice_length]
  exact Nat.le_trans (Nat.sub_le ..) (Nat.min_le_right ..)

/-- two ranges of which the second begins where the first ends, or later, hold at most the whole string -/
theorem slice_length_add_le (b : Bytes) (i j k l : Nat) :
    (slice b i j).length + (slice b (j + k) l).length ≤ b.length := by
  rw [slice_length, slice_length]
  -- the first range ends at `min j b.length` at the latest, the second begins there at the earliest
  have h1 : min j b.length - i ≤ min j b.length := Nat.sub_le ..
  have h2 : min l b.length - (j + k) ≤ b.length - min j b.length :=
    Nat.le_trans (Nat.sub_le_sub_right (Nat.min_le_right ..) _)
      (Nat.sub_le_sub_left (Nat.le_trans (Nat.min_le_left ..) (Nat.le_add_right ..)) _)
  exact Nat.le_trans (Nat.add_le_add h1 h2) (Nat.le_of_eq (Nat.add_sub_of_le (Nat.min_le_right ..)))

theorem slice_getElem? (b : Bytes) (i j k : Nat) (h : i + k < j) :
    (slice b i j)[k]? = b[i + k]? := by
  rw [slice, List.getElem?_drop, List.getElem?_take_of_lt h]

/-- agreement on a range follows from equal slices -/
theorem agree_of_slice_eq {a b : Bytes} {i j p : Nat} (h : slice a i j = slice b i j)
    (hp : i ≤ p) (hpj : p < j) : a[p]? = b[p]? := by
  have e : i + (p - i) = p := Nat.add_sub_of_le hp
  have h1 := slice_getElem? a i j (p - i) (e.symm ▸ hpj)
  have h2 := slice_getElem? b i j (p - i) (e.symm ▸ hpj)
  rw [e] at h1 h2
  rw [← h1, ← h2, h]

/-- equal slices follow from agreement on the range -/
theorem slice_congr {a b : Bytes} {i j : Nat} (h : ∀ p, i ≤ p → p < j → a[p]? = b[p]?) :
    slice a i j = slice b i j := by
  apply List.ext_getElem?
  intro k
  by_cases hk : i + k < j
  · rw [slice_getElem? a i j k hk, slice_getElem? b i j k hk]
    exact h _ (Nat.le_add_right ..) hk
  · have hw : j - i ≤ k := Nat.sub_le_iff_le_add'.2 (Nat.not_lt.1 hk)
    rw [List.getElem?_eq_none (Nat.le_trans (slice_length_le a i j) hw),
      List.getElem?_eq_none (Nat.le_trans (slice_length_le b i j) hw)]

theorem slice_all (x : Bytes) : slice x 0 x.length = x := by simp [slice]

theorem slice_split (x : Bytes) {i k j : Nat} (hik : i ≤ k) (hkj : k ≤ j) (hk : k ≤ x.length) :
    slice x i j = slice x i k ++ slice x k j := by
  unfold slice
  have e : x.take j = x.take k ++ (x.take j).drop k := by
    have := List.take_append_drop k (x.take j)
    rw [List.take_take, Nat.min_eq_left hkj] at this
    exact this.symm
  conv => lhs; rw [e]
  rw [List.drop_append_of_le_length (by simp; omega)]

/-- a slice that ends inside `b` does not see what is appended -/
theorem slice_append_left (b z : Bytes) (i j : Nat) (h : j ≤ b.length) :
    slice (b ++ z) i j = slice b i j := by
  unfold slice
  rw [List.take_append_of_le_length h]

/-- a slice from inside `b` to the end of `b ++ z` -/
theorem slice_append_full (b z : Bytes) (i : Nat) (h : i ≤ b.length) :
    slice (b ++ z) i (b.length + z.length) = slice b i b.length ++ z := by
  unfold slice
  rw [List.take_of_length_le (by simp), List.take_of_length_le (Nat.le_refl _),
      List.drop_append_of_le_length h]

theorem slice_prefix (a r : Bytes) {j : Nat} (hj : j = a.length) : slice (a ++ r) 0 j = a := by
  subst hj
  simp [slice]

theorem slice_mid (a m r : Bytes) {i j : Nat} (hi : i = a.length) (hj : j = a.length + m.length) :
    slice (a ++ (m ++ r)) i j = m := by
  subst hi; subst hj
  unfold slice
  rw [← List.append_assoc, List.take_left' (by simp), List.drop_left' rfl]

theorem slice_suffix (a r : Bytes) {i j : Nat} (hi : i = a.length) (hj : a.length + r.length ≤ j) :
    slice (a ++ r) i j = r := by
  subst hi
  unfold slice
  rw [List.take_of_length_le (by simp; omega), List.drop_left' rfl]

/-! ### fields read at an offset -/

theorem byteAt_congr {a b : Bytes} {o} (h : a[o]? = b[o]?) : byteAt a o = byteAt b o := by
  simp [byteAt, h]

theorem le32At_agree {a b : Bytes} {o : Nat} (h : ∀ p, o ≤ p → p < o + 4 → a[p]? = b[p]?) :
    le32At a o = le32At b o := by
  have hk : ∀ k, k < 4 → byteAt a (o + k) = byteAt b (o + k) := fun k hk =>
    byteAt_congr (h _ (Nat.le_add_right ..) (Nat.add_lt_add_left hk o))
  simp only [le32At]
  rw [show byteAt a o = byteAt b o from hk 0 (by decide), hk 1 (by decide), hk 2 (by decide), hk 3 (by decide)]

theorem le16At_agree {a b : Bytes} {o : Nat} (h : ∀ p, o ≤ p → p < o + 2 → a[p]? = b[p]?) :
    le16At a o = le16At b o := by
  simp only [le16At]
  rw [byteAt_congr (h o (Nat.le_refl o) (Nat.lt_add_of_pos_right (by decide))),
    byteAt_congr (h (o + 1) (Nat.le_add_right ..) (Nat.add_lt_add_left (by decide) o))]

theorem le32At_congr {a b : Bytes} {i j o : Nat} (h : slice a i j = slice b i j)
    (h1 : i ≤ o) (h2 : o + 4 ≤ j) : le32At a o = le32At b o :=
  le32At_agree fun _ hp hpj => agree_of_slice_eq h (Nat.le_trans h1 hp) (Nat.lt_of_lt_of_le hpj h2)

theorem le16At_congr {a b : Bytes} {i j o : Nat} (h : slice a i j = slice b i j)
    (h1 : i ≤ o) (h2 : o + 2 ≤ j) : le16At a o = le16At b o :=
  le16At_agree fun _ hp hpj => agree_of_slice_eq h (Nat.le_trans h1 hp) (Nat.lt_of_lt_of_le hpj h2)

theorem getElem?_zeros (k i : Nat) : (zeros k)[i]?.getD 0 = 0 := by
  unfold zeros
  by_cases h : i < k
  · simp [h]
  · simp [h]

/-- reading a byte (with the out-of-range default 0) does not see zero padding -/
theorem byteAt_append_zeros (b : Bytes) (k o : Nat) : byteAt (b ++ zeros k) o = byteAt b o := by
  unfold byteAt
  by_cases h : o < b.length
  · rw [List.getElem?_append_left h]
  · rw [List.getElem?_append_right (by omega), getElem?_zeros, List.getElem?_eq_none (by omega)]
    rfl

theorem le16At_append_zeros (b : Bytes) (k o : Nat) : le16At (b ++ zeros k) o = le16At b o := by
  simp only [le16At, byteAt_append_zeros]

theorem le32At_append_zeros (b : Bytes) (k o : Nat) : le32At (b ++ zeros k) o = le32At b o := by
  simp only [le32At, byteAt_append_zeros]

theorem le32At_le32 (a r : Bytes) (v : Nat) (hv : v < 2^32) {o : Nat} (ho : o = a.length) :
    le32At (a ++ (le32 v ++ r)) o = v := by
  subst ho
  have h := rd32_le32 v hv
  simp only [le32, rd32] at h
  have e0 := getElem?_mid a (le32 v) r 0 (by simp)
  have e1 := getElem?_mid a (le32 v) r 1 (by simp)
  have e2 := getElem?_mid a (le32 v) r 2 (by simp)
  have e3 := getElem?_mid a (le32 v) r 3 (by simp)
  rw [Nat.add_zero] at e0
  simp only [le32At, byteAt, e0, e1, e2, e3]
  simp only [le32, List.getElem?_cons_zero, List.getElem?_cons_succ, Option.getD_some]
  exact h

/-! ### loops on fuel over the pairs of a byte string -/

/-- Induction for a loop on fuel that takes a byte string two bytes a turn and stops at a last single byte or at the
    end: `len / 2 + 1` turns are enough, one for each complete pair and one to see the end. -/
theorem pairs_fuel {P : Bytes → Nat → Prop} (nil : ∀ f, P [] (f + 1)) (single : ∀ a f, P [a] (f + 1))
    (pair : ∀ a c r f, P r f → P (a :: c :: r) (f + 1)) :
    ∀ (bs : Bytes) (fuel : Nat), bs.length / 2 + 1 ≤ fuel → P bs fuel
  | [], f + 1, _ => nil f
  | [a], f + 1, _ => single a f
  | a :: c :: r, f + 1, h => by
    rw [List.length_cons, List.length_cons, Nat.add_assoc, Nat.add_div_right _ (by decide)] at h
    exact pair a c r f (pairs_fuel nil single pair r f (Nat.le_of_succ_le_succ h))

end GoUefi

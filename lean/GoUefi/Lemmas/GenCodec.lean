import GoUefi.Gen
import GoUefi.Lemmas.Bytes
import GoUefi.Lemmas.Guid
/-!
  Bridge lemmas between the support definitions of the generated file (`GoUefi/GenPrelude.lean`:
  `readBytes`, `decLE16/32`, `decBE16/32`, `encLE16/32`, `encBE16/32`, …) and the hand-written base
  (`GoUefi/Base.lean`: `readN`, `rd16/32`, `rdBe16/32`, `le16/32`, `be16/32`), and the generated GUID struct codec
  (`encLE_/decLE_util_EFIGUID`: the wire form that several packages share).
-/
namespace GoUefi.GenCodec
open GoUefi GoUefi.Gen

/-! ### `readBytes` vs `readN` -/

theorem readBytes_eq (n : Nat) (f : List UInt8) :
    readBytes n f = if f.length < n then ([], [], some (if f = [] then "io.EOF" else "io.ErrUnexpectedEOF"))
      else (f.take n, f.drop n, none) := by
  unfold readBytes
  by_cases h0 : n = 0
  · simp [h0]
  · by_cases h1 : f = []
    · subst h1; simp [h0]
    · by_cases h2 : f.length < n <;> simp [h0, h1, h2]

/-- `binary.Read` of `n` bytes is the model's `readN`, the two failures named as Go names them -/
theorem readBytes_readN (n : Nat) (f : List UInt8) :
    readBytes n f = match readN n f with
      | .ok (a, r) => (a, r, none)
      | .error e => ([], [], some (if e = .eof then "io.EOF" else "io.ErrUnexpectedEOF")) := by
  rw [readBytes_eq, readN_eq]
  split
  · split <;> simp [*]
  · rfl

theorem readBytes_cases (n : Nat) (f : List UInt8) :
    (∃ e s, readN n f = .error e ∧ readBytes n f = ([], [], some s)) ∨
    (∃ x r, readN n f = .ok (x, r) ∧ x.length = n ∧ readBytes n f = (x, r, none)) := by
  rw [readBytes_readN]
  cases h : readN n f with
  | error e => exact .inl ⟨e, _, rfl, rfl⟩
  | ok p => exact .inr ⟨p.1, p.2, rfl, (readN_ok h).2, rfl⟩

/-- a read of at least one byte from a reader that holds fewer: an error (EOF / UnexpectedEOF) -/
theorem readBytes_short {n : Nat} {f : List UInt8} (h : f.length < n) :
    ∃ s, readBytes n f = ([], [], some s) :=
  ⟨_, by rw [readBytes_eq, if_pos h]⟩

theorem readBytes_of_le {n : Nat} {f : List UInt8} (h : n ≤ f.length) :
    readBytes n f = (f.take n, f.drop n, none) := by
  rw [readBytes_eq, if_neg (Nat.not_lt.mpr h)]

/-- reading exactly what is left (also when nothing is left: `readBytes 0 _` succeeds) -/
theorem readBytes_all (f : List UInt8) : readBytes f.length f = (f, [], none) := by
  rw [readBytes_of_le (Nat.le_refl _), List.take_length, List.drop_length]

/-! ### integers -/

theorem _root_.GoUefi.Gen.encLE32_eq (v : UInt32) : encLE32 v = le32 v.toNat := rfl
theorem _root_.GoUefi.Gen.encLE16_eq (v : UInt16) : encLE16 v = le16 v.toNat := rfl
theorem encBE32_eq (v : UInt32) : encBE32 v = be32 v.toNat := rfl
theorem encBE16_eq (v : UInt16) : encBE16 v = be16 v.toNat := rfl
theorem encLE32_length (v : UInt32) : (encLE32 v).length = 4 := rfl
theorem encLE16_length (v : UInt16) : (encLE16 v).length = 2 := rfl

theorem decLE32_toNat (b : List UInt8) (h : b.length = 4) : (decLE32 b).toNat = rd32 b := by
  match b, h with
  | [a, b, c, d], _ => exact UInt32.toNat_ofNat_of_lt' (rd32_lt [a, b, c, d])

theorem decLE32_eq (b : List UInt8) (h : b.length = 4) : decLE32 b = UInt32.ofNat (rd32 b) := by
  rw [← decLE32_toNat b h, UInt32.ofNat_toNat]

theorem decLE16_toNat (b : List UInt8) (h : b.length = 2) : (decLE16 b).toNat = rd16 b := by
  match b, h with
  | [a, b], _ => exact UInt16.toNat_ofNat_of_lt' (rd16_lt [a, b])

theorem decBE32_toNat (b : List UInt8) (h : b.length = 4) : (decBE32 b).toNat = rdBe32 b := by
  match b, h with
  | [a, b, c, d], _ => exact UInt32.toNat_ofNat_of_lt' (rdBe32_lt [a, b, c, d])

theorem decBE16_toNat (b : List UInt8) (h : b.length = 2) : (decBE16 b).toNat = rdBe16 b := by
  match b, h with
  | [a, b], _ => exact UInt16.toNat_ofNat_of_lt' (rdBe16_lt [a, b])

theorem encLE32_decLE32 (b : List UInt8) (h : b.length = 4) : encLE32 (decLE32 b) = b := by
  rw [encLE32_eq, decLE32_toNat b h, le32_rd32 b h]
theorem encLE16_decLE16 (b : List UInt8) (h : b.length = 2) : encLE16 (decLE16 b) = b := by
  rw [encLE16_eq, decLE16_toNat b h, le16_rd16 b h]
theorem encBE32_decBE32 (b : List UInt8) (h : b.length = 4) : encBE32 (decBE32 b) = b := by
  rw [encBE32_eq, decBE32_toNat b h, be32_rdBe32 b h]
theorem encBE16_decBE16 (b : List UInt8) (h : b.length = 2) : encBE16 (decBE16 b) = b := by
  rw [encBE16_eq, decBE16_toNat b h, be16_rdBe16 b h]
theorem encLEi16_decLEi16 (b : List UInt8) (h : b.length = 2) : encLEi16 (decLEi16 b) = b := by
  unfold encLEi16 decLEi16
  rw [UInt16.toUInt16_toInt16, encLE16_decLE16 b h]

theorem decLE32_encLE32 (v : UInt32) : decLE32 (encLE32 v) = v := by
  apply UInt32.toNat_inj.mp
  rw [decLE32_toNat _ rfl, encLE32_eq, rd32_le32 _ v.toNat_lt]
theorem decLE16_encLE16 (v : UInt16) : decLE16 (encLE16 v) = v := by
  apply UInt16.toNat_inj.mp
  rw [decLE16_toNat _ rfl, encLE16_eq, rd16_le16 _ v.toNat_lt]
theorem decBE32_encBE32 (v : UInt32) : decBE32 (encBE32 v) = v := by
  apply UInt32.toNat_inj.mp
  rw [decBE32_toNat _ rfl, encBE32_eq, rdBe32_be32 _ v.toNat_lt]
theorem decBE16_encBE16 (v : UInt16) : decBE16 (encBE16 v) = v := by
  apply UInt16.toNat_inj.mp
  rw [decBE16_toNat _ rfl, encBE16_eq, rdBe16_be16 _ v.toNat_lt]

theorem decLEi16_encLEi16 (v : Int16) : decLEi16 (encLEi16 v) = v := by
  unfold decLEi16 encLEi16
  rw [decLE16_encLE16, Int16.toInt16_toUInt16]

theorem encU8_decU8 (b : List UInt8) (h : b.length = 1) : encU8 (decU8 b) = b := by
  match b, h with
  | [a], _ => rfl

/-! ### the GUID struct codecs -/

/-- `binary.Write(LE)` of a GUID value is the model's wire form.  The abstractions `C09.gw` (Lemmas/GenSigAbs.lean) and
    `C10.gwG` (Lemmas/GenAuthDesc.lean) are this right-hand side, `C17.absGuid` (Properties/C17g.lean) is its argument: the
    lemmas below about `encLE_util_EFIGUID` are lemmas about all of them. -/
theorem encLE_guid_eq (g : util.EFIGUID) :
    encLE_util_EFIGUID g = guidWire ⟨g.Data1.toNat, g.Data2.toNat, g.Data3.toNat, g.Data4⟩ := rfl

theorem encLE_decLE_guid (b : List UInt8) (h : b.length = 16) :
    encLE_util_EFIGUID (decLE_util_EFIGUID b) = b := by
  obtain ⟨l1, l2, l3⟩ := join4_lengths b (Nat.le_of_eq h.symm)
  unfold encLE_util_EFIGUID decLE_util_EFIGUID decBytes
  simp only [List.drop_zero]
  rw [encLE32_decLE32 _ l1, encLE16_decLE16 _ l2, encLE16_decLE16 _ l3, join4 b h]

theorem decLE_guid_data4_length (b : List UInt8) (h : b.length = 16) :
    (decLE_util_EFIGUID b).Data4.length = 8 := by
  rw [decLE_util_EFIGUID, decBytes]
  exact List.length_take_of_le (by rw [List.length_drop, h]; decide)

theorem encLE_guid_length (g : util.EFIGUID) : (encLE_util_EFIGUID g).length = 8 + g.Data4.length := by
  simp only [encLE_util_EFIGUID, List.length_append, decBytes, encLE32_length, encLE16_length]

/-- the wire form determines the value, whatever the length of `Data4`: the three integers have fixed widths
    and are decoded by their left inverses, `Data4` is what follows -/
theorem encLE_guid_inj {a b : util.EFIGUID} (h : encLE_util_EFIGUID a = encLE_util_EFIGUID b) : a = b := by
  obtain ⟨h123, h4⟩ := List.append_inj h (by simp only [List.length_append, encLE32_length, encLE16_length])
  obtain ⟨h12, h3⟩ := List.append_inj h123 (by simp only [List.length_append, encLE32_length, encLE16_length])
  obtain ⟨h1, h2⟩ := List.append_inj h12 ((encLE32_length _).trans (encLE32_length _).symm)
  have e1 := congrArg decLE32 h1
  have e2 := congrArg decLE16 h2
  have e3 := congrArg decLE16 h3
  rw [decLE32_encLE32, decLE32_encLE32] at e1
  rw [decLE16_encLE16, decLE16_encLE16] at e2 e3
  cases a; cases b
  simp only [util.EFIGUID.mk.injEq]
  exact ⟨e1, e2, e3, h4⟩

/-- `binary.Read` of the 16 bytes that `binary.Write` emits for a GUID value gives the value back (its
    `[8]uint8` field is a list in the translation: of length 8) -/
theorem decLE_encLE_guid (g : util.EFIGUID) (h8 : g.Data4.length = 8) :
    decLE_util_EFIGUID (encLE_util_EFIGUID g) = g :=
  encLE_guid_inj (encLE_decLE_guid _ (by rw [encLE_guid_length, h8]))

end GoUefi.GenCodec

import GoUefi.Lemmas.Pe
import GoUefi.Lemmas.AuthDesc
import GoUefi.Lemmas.Pkcs7Verify
import GoUefi.Model.Authenticode
import GoUefi.Spec.Authenticode
/-!
  What C03 (signing yields a well-formed signed image), C02 (image verification succeeds only for a signature over
  these bytes) and the `Signatures` / `Verify` part of C13 (total and bounded) rest on, in this order:
  `AppendSignature` on what `Parse` returned, in closed form, and `Signed b sig o`, all that is used afterwards of the
  file `o` that `Bytes()` writes; the specification's strict certificate-table walker as a relation without fuel (`Walk`);
  `Signatures()` against it (one turn of its loop is one step of the walk: `readWinCert_head`, `readWinCert_next`);
  the `Verify` functions, one `Ensures` statement each; what they accept in the terms of `Spec.authenticodeVerify`;
  `PeSignEx`, an image really signed under toy cryptography.

  The namespace is `GoUefi.PeSign`; `Impl.Parsed.signatures_spec` and `Impl.Auth.verify_ne_exit` alone are stated in
  `GoUefi.Impl`, for dot notation.
-/
namespace GoUefi

namespace PeSign
open GoUefi.PeAux GoUefi.Spec.PE GoUefi.Impl

/-! ### generic byte-string facts -/

theorem getElem?_prefix (a r : Bytes) {p : Nat} (hp : p < a.length) : (a ++ r)[p]? = a[p]? :=
  List.getElem?_append_left hp

theorem slice0_getElem? (b : Bytes) {j p : Nat} (hp : p < j) : (slice b 0 j)[p]? = b[p]? := by
  have := slice_getElem? b 0 j p (by omega)
  simpa using this

/-! ### `AppendSignature` on what `Parse` returned -/

/-- the bytes `AppendSignature` adds to the certificate table -/
def sigEntry (sig : Bytes) : Bytes :=
  writeWinCert ⟨8 + sig.length, 0x0200, 2, sig⟩ ++ zeros (pad8 (8 + sig.length))

/-- the new directory entry -/
def newVA (b : Bytes) : Nat := if certSize b ≠ 0 then certAddr b else b.length + pad8 b.length
def newSize (b sig : Bytes) : Nat :=
  if certSize b ≠ 0 then certSize b + (sigEntry sig).length else (sigEntry sig).length

theorem sigEntry_length (sig : Bytes) :
    (sigEntry sig).length = 8 + sig.length + pad8 (8 + sig.length) := by
  simp [sigEntry, writeWinCert]; omega

theorem table_nil {b : Bytes} (hc : certSize b = 0) : slice b (certAddr b) (certAddr b + certSize b) = [] := by
  rw [hc, Nat.add_zero, slice, List.drop_take_self]

theorem table_length {b : Bytes} (h : WF b) :
    (slice b (certAddr b) (certAddr b + certSize b)).length = certSize b := by
  by_cases hc : certSize b = 0
  · rw [table_nil hc, hc]
    rfl
  · rw [slice_length_of_le _ (Nat.le_of_eq (h.certAddr_eq hc).1), Nat.add_sub_cancel_left]

theorem newVA_eq {b : Bytes} (h : WF b) :
    newVA b = b.length - certSize b + pad8 b.length := by
  unfold newVA
  by_cases hc : certSize b = 0
  · simp [hc]
  · obtain ⟨ha, h8, _, _⟩ := h.certAddr_eq hc
    rw [if_pos hc, pad8_eq_zero h8]
    exact Nat.eq_sub_of_add_eq ha

theorem newSize_eq (b sig : Bytes) : newSize b sig = certSize b + (sigEntry sig).length := by
  unfold newSize
  by_cases hc : certSize b = 0
  · simp [hc]
  · rw [if_pos hc]

/-- what the size hypothesis of the signing theorems is for: both numbers of the new directory entry fit in a `uint32` -/
theorem newDir_lt {b sig : Bytes} (h : WF b) (hfit : b.length + 8 + sig.length + 16 < 2^32) :
    newVA b < 2^32 ∧ newSize b sig < 2^32 := by
  have := pad8_lt b.length
  have := pad8_lt (8 + sig.length)
  have := h.c_le
  rw [newVA_eq h, newSize_eq, sigEntry_length]
  omega

theorem appendSignature_eq {b : Bytes} (h : WF b) (sig : Bytes) (h32 : 8 + sig.length < 2^32)
    (hfit : b.length + 8 + sig.length + 16 < 2^32) :
    let p := wfParsed b
    p.appendSignature sig =
      { p with ddVA := newVA b, ddSize := newSize b sig, certTable := p.certTable ++ sigEntry sig,
               optDataDir := le32 (newVA b) ++ le32 (newSize b sig) } := by
  have hl := sigEntry_length sig
  obtain ⟨hv, hs⟩ := newDir_lt h hfit (sig := sig)
  unfold Parsed.appendSignature
  simp only [Nat.mod_eq_of_lt h32, winCertTypePkcs, wfParsed, sigEntry, List.append_assoc]
  -- nothing wraps
  by_cases hc : certSize b = 0
  · rw [if_neg (by simp [hc])]
    simp only [newVA, newSize, hc, ne_eq, not_true_eq_false, if_false, hl] at hv hs ⊢
    rw [Nat.mod_eq_of_lt hv, Nat.mod_eq_of_lt hs]
  · rw [if_pos ⟨(h.certAddr_eq hc).2.2.2, hc⟩]
    simp only [newVA, newSize, hc, ne_eq, not_false_eq_true, if_true, hl] at hs ⊢
    rw [← Nat.add_assoc] at hs
    rw [Nat.mod_eq_of_lt (Nat.lt_of_le_of_lt (Nat.le_add_right _ _) hs), Nat.mod_eq_of_lt hs,
      Nat.add_assoc (certSize b)]

theorem bytes_appendSignature {b : Bytes} (h : WF b) (sig : Bytes) (h32 : 8 + sig.length < 2^32)
    (hfit : b.length + 8 + sig.length + 16 < 2^32) :
    ((wfParsed b).appendSignature sig).bytes =
      slice b 0 (layout b).dd ++ (le32 (newVA b) ++ (le32 (newSize b sig) ++
        (slice b ((layout b).dd + 8) (b.length - certSize b) ++ (zeros (pad8 b.length) ++
          (slice b (certAddr b) (certAddr b + certSize b) ++ sigEntry sig))))) := by
  rw [appendSignature_eq h sig h32 hfit]
  simp only [Parsed.bytes, wfParsed, List.append_assoc]

/-- everything the later proofs use about the signed file `o` made from `b` and `sig` -/
structure Signed (b sig o : Bytes) : Prop where
  len : o.length = b.length + pad8 b.length + (sigEntry sig).length
  pre : slice o 0 (layout b).dd = slice b 0 (layout b).dd
  mid : slice o ((layout b).dd + 8) (b.length - certSize b) =
          slice b ((layout b).dd + 8) (b.length - certSize b)
  padz : slice o (b.length - certSize b) (b.length - certSize b + pad8 b.length) = zeros (pad8 b.length)
  tab : slice o (newVA b) o.length = slice b (certAddr b) (certAddr b + certSize b) ++ sigEntry sig
  va : le32At o (layout b).dd = newVA b
  sz : le32At o ((layout b).dd + 4) = newSize b sig

/-- positions in a file of the shape `Bytes()` writes; the offsets are variables so that the caller names them -/
theorem anatomy {A L Z T E o : Bytes} {a e e' va sz : Nat}
    (ho : o = A ++ (le32 va ++ (le32 sz ++ (L ++ (Z ++ (T ++ E)))))) (hA : A.length = a)
    (hL : a + 8 + L.length = e) (hZ : e + Z.length = e') (hva : va < 2^32) (hsz : sz < 2^32) :
    o.length = e' + T.length + E.length ∧ slice o 0 a = A ∧ slice o (a + 8) e = L ∧ slice o e e' = Z ∧
    slice o e' o.length = T ++ E ∧ le32At o a = va ∧ le32At o (a + 4) = sz := by
  subst hA hL hZ
  refine ⟨?_, ?_, ?_, ?_, ?_, ?_, ?_⟩
  · rw [ho]; simp; omega
  · rw [ho]; exact slice_prefix _ _ rfl
  · rw [show o = (A ++ (le32 va ++ le32 sz)) ++ (L ++ (Z ++ (T ++ E))) by simp only [ho, List.append_assoc]]
    exact slice_mid _ _ _ (by simp) (by simp)
  · rw [show o = (A ++ (le32 va ++ (le32 sz ++ L))) ++ (Z ++ (T ++ E)) by simp only [ho, List.append_assoc]]
    exact slice_mid _ _ _ (by simp; omega) (by simp; omega)
  · rw [show o = (A ++ (le32 va ++ (le32 sz ++ (L ++ Z)))) ++ (T ++ E) by simp only [ho, List.append_assoc]]
    exact slice_suffix _ _ (by simp; omega) (by simp; omega)
  · rw [ho]; exact le32At_le32 _ _ _ hva rfl
  · rw [show o = (A ++ le32 va) ++ (le32 sz ++ (L ++ (Z ++ (T ++ E)))) by simp only [ho, List.append_assoc]]
    exact le32At_le32 _ _ _ hsz (by simp)

theorem signed_of_append {b : Bytes} (h : WF b) {p : Parsed}
    (hp : parse b (factsOf b) = .ok p) (sig : Bytes) (h32 : 8 + sig.length < 2^32)
    (hfit : b.length + 8 + sig.length + 16 < 2^32) :
    Signed b sig (p.appendSignature sig).bytes := by
  cases parse_eq_wfParsed h hp
  have hcl := h.c_le
  have hdd : (layout b).dd ≤ b.length := Nat.le_trans (Nat.le_of_add_right_le h.hdr.2.1) h.hdr.2.2
  have hT := table_length h
  have hva := newVA_eq h
  have hlen : newVA b + certSize b = b.length + pad8 b.length := by
    rw [hva, Nat.add_right_comm, Nat.sub_add_cancel hcl]
  obtain ⟨hvn, hsn⟩ := newDir_lt h hfit (sig := sig)
  obtain ⟨a1, a2, a3, a4, a5, a6, a7⟩ := anatomy (bytes_appendSignature h sig h32 hfit)
    (a := (layout b).dd) (e := b.length - certSize b) (e' := newVA b)
    (slice_length_of_le 0 hdd)
    (by rw [slice_length_of_le _ (Nat.sub_le _ _)]; exact Nat.add_sub_cancel' h.dd_le)
    (by rw [zeros_length, hva]) hvn hsn
  exact ⟨by rw [a1, hT, hlen], a2, a3, hva ▸ a4, a5, a6, a7⟩

/-! ### the signed file: well-formed, same layout, same hash input; what `Parse` finds in it -/

namespace Signed
variable {b sig o : Bytes}

theorem agree (sg : Signed b sig o) (q : Nat) (hq : q < b.length - certSize b)
    (hd : ¬((layout b).dd ≤ q ∧ q < (layout b).dd + 8)) : b[q]? = o[q]? := by
  by_cases h1 : q < (layout b).dd
  · exact (agree_of_slice_eq sg.pre (Nat.zero_le _) h1).symm
  · exact (agree_of_slice_eq sg.mid (by omega) hq).symm

theorem agree_covered (sg : Signed b sig o) (h : WF b) {p : Nat} (hp : Covered b p) : b[p]? = o[p]? :=
  sg.agree p (h.covered_lt hp) fun hd => h.covered_not_excluded hp (.inr (.inl hd))

theorem layout_eq (sg : Signed b sig o) (h : WF b) : layout o = layout b :=
  (layout_congr h.dirs_fit h.tab_soh (slice_sub sg.pre (Nat.le_refl _) (Nat.le_of_add_right_le h.hdr.1)).symm
    (slice_sub sg.pre (Nat.zero_le _) (Nat.le_refl _)).symm
    (slice_sub sg.mid (Nat.le_refl _) h.soh_n).symm).symm

theorem certAddr_eq (sg : Signed b sig o) (h : WF b) : certAddr o = newVA b := by
  unfold certAddr; rw [sg.layout_eq h]; exact sg.va

theorem certSize_eq (sg : Signed b sig o) (h : WF b) : certSize o = newSize b sig := by
  unfold certSize; rw [sg.layout_eq h]; exact sg.sz

theorem nums (sg : Signed b sig o) (h : WF b) :
    newVA b % 8 = 0 ∧ newSize b sig % 8 = 0 ∧ newVA b + newSize b sig = o.length ∧
    o.length % 8 = 0 ∧ o.length - newSize b sig = b.length - certSize b + pad8 b.length ∧
    newSize b sig ≠ 0 := by
  have add8 : ∀ {x y : Nat}, x % 8 = 0 → y % 8 = 0 → (x + y) % 8 = 0 :=
    fun hx hy => by rw [Nat.add_mod, hx, hy]
  have hE : (sigEntry sig).length % 8 = 0 ∧ 0 < (sigEntry sig).length := by
    rw [sigEntry_length]
    exact ⟨add_pad8_mod _, by omega⟩
  -- the old table and the position behind the padded image are 8-aligned, with or without a table
  have hc8 : certSize b % 8 = 0 ∧ (b.length - certSize b + pad8 b.length) % 8 = 0 := by
    by_cases hc : certSize b = 0
    · rw [hc]; exact ⟨rfl, add_pad8_mod b.length⟩
    · obtain ⟨_, h8, hc8, _⟩ := h.certAddr_eq hc
      rw [pad8_eq_zero h8]
      exact ⟨hc8, Nat.sub_mod_eq_zero_of_mod_eq (h8.trans hc8.symm)⟩
  have hsum : b.length - certSize b + pad8 b.length + (certSize b + (sigEntry sig).length) = o.length := by
    rw [sg.len, Nat.add_add_add_comm, Nat.sub_add_cancel h.c_le, Nat.add_assoc]
  rw [newVA_eq h, newSize_eq b sig]
  exact ⟨hc8.2, add8 hc8.1 hE.1, hsum, hsum ▸ add8 hc8.2 (add8 hc8.1 hE.1), Nat.sub_eq_of_eq_add hsum.symm,
    Nat.ne_of_gt (Nat.add_pos_right _ hE.2)⟩

theorem covered (sg : Signed b sig o) (h : WF b) {p : Nat} (hp : Covered b p) : Covered o p := by
  obtain ⟨_, _, _, _, n5, _⟩ := sg.nums h
  unfold Covered at hp ⊢
  simp only [] at hp ⊢
  rw [sg.layout_eq h, sg.certSize_eq h, n5]
  -- the same layout, so the first four ranges are the same; the last one only grows, by the padding
  exact hp.imp_right (Or.imp_right (Or.imp_right (Or.imp_right fun hp => ⟨hp.1, by omega⟩)))

theorem wf (sg : Signed b sig o) (h : WF b) : WF o := by
  have hl := sg.layout_eq h
  have hcs := sg.certSize_eq h
  obtain ⟨_, n2, n3, n4, n5, _⟩ := sg.nums h
  have ag : ∀ q, q < (layout b).L + 152 → b[q]? = o[q]? := fun q hq =>
    (agree_of_slice_eq sg.pre (Nat.zero_le _) (Nat.lt_of_lt_of_le hq (layout b).le_dd)).symm
  -- the end of the hashed part only moved up, by the padding
  have up : ∀ {x : Nat}, x ≤ b.length - certSize b → x ≤ b.length - certSize b + pad8 b.length :=
    fun hx => Nat.le_trans hx (Nat.le_add_right _ _)
  refine ⟨⟨?_, ?_⟩, ?_, ?_, ?_, ?_, ?_, ?_, ?_, ?_, ?_, ?_, ?_⟩
  · rw [← h.mz.1]; exact (byteAt_congr (ag 0 (by omega))).symm
  · rw [← h.mz.2]; exact (byteAt_congr (ag 1 (by omega))).symm
  · rw [hl, ← h.pesig]; exact (le32At_agree fun q _ _ => ag q (by omega)).symm
  · rw [hl]
    have : le16At o ((layout b).L + 24) = le16At b ((layout b).L + 24) :=
      (le16At_agree fun q _ _ => ag q (by omega)).symm
    rw [this]; exact h.magic
  · rw [hl]; exact h.ndirs
  · rw [hl]; exact h.dirs_fit
  · rw [hl]; exact h.tab_soh
  · rw [hl, hcs, n5]; exact up h.soh_n
  · rw [hcs, ← n3]; exact Nat.le_add_left _ _
  · rw [hl, hcs, n5]; exact fun s hs => ⟨(h.secs_in s hs).1, up (h.secs_in s hs).2⟩
  · rw [hl, hcs, n5]; exact up h.sum_le
  · rw [hl]; exact h.disjoint
  · rw [hcs, sg.certAddr_eq h]; exact Or.inr ⟨n4, n2, n3⟩

/-- signing does not change the hash input: the signed file and the padded image have the same end of the hashed
    part and agree on every covered byte -/
theorem digest (sg : Signed b sig o) (h : WF b) : authInputPadded o = authInputPadded b := by
  have wo := sg.wf h
  obtain ⟨_, _, _, n4, n5, _⟩ := sg.nums h
  have hc := h.c_le
  show authInput (padded o) = authInput (padded b)
  rw [padded_of_aligned n4]
  refine authInput_congr wo
    (by rw [sg.certSize_eq h, n5, certSize_padded, padded_length, Nat.sub_add_comm hc]) fun p hp => ?_
  have hlt := wo.covered_lt hp
  rw [sg.certSize_eq h, n5] at hlt
  by_cases hq : p < b.length - certSize b
  · rw [padded, List.getElem?_append_left (Nat.lt_of_lt_of_le hq (Nat.sub_le _ _))]
    exact (sg.agree p hq fun hd =>
      wo.covered_not_excluded hp (Or.inr (Or.inl (by rw [sg.layout_eq h]; exact hd)))).symm
  · -- inside the padding, which exists only when there is no table yet
    have hz : certSize b = 0 := by
      rcases h.aligned with h0 | ⟨h8, _, _⟩
      · exact h0
      · rw [pad8_eq_zero h8] at hlt; omega
    have hpad := sg.padz
    rw [hz, Nat.sub_zero] at hq hlt hpad
    have hge := Nat.le_of_not_lt hq
    have := slice_getElem? o b.length (b.length + pad8 b.length) (p - b.length) (by omega)
    rw [hpad, Nat.add_sub_cancel' hge] at this
    rw [← this, padded, List.getElem?_append_right hge]

theorem padded_eq (sg : Signed b sig o) (h : WF b) : padded o = o :=
  padded_of_aligned (sg.nums h).2.2.2.1

theorem certTable (sg : Signed b sig o) (h : WF b) :
    (wfParsed o).certTable = slice b (certAddr b) (certAddr b + certSize b) ++ sigEntry sig := by
  obtain ⟨_, _, n3, _, _, _⟩ := sg.nums h
  show slice o (certAddr o) (certAddr o + certSize o) = _
  rw [sg.certAddr_eq h, sg.certSize_eq h, n3, sg.tab]

theorem certTable_fresh (sg : Signed b sig o) (h : WF b) (hc : certSize b = 0) :
    (wfParsed o).certTable = sigEntry sig := by
  rw [sg.certTable h, table_nil hc, List.nil_append]

theorem hashStream (sg : Signed b sig o) (h : WF b) : hashStream (wfParsed o) = authInputPadded b :=
  (hashStream_wfParsed (sg.wf h)).trans (sg.digest h)

end Signed

/-! ### serialise, parse again, sign again -/

/-- only for a signed image: to an unsigned one that is not 8-aligned `Bytes()` appends the padding -/
theorem bytes_wfParsed {x : Bytes} (h : WF x) (hc : certSize x ≠ 0) : (wfParsed x).bytes = x := by
  obtain ⟨ha, h8, _, _⟩ := h.certAddr_eq hc
  have hend : x.length - certSize x ≤ x.length := Nat.sub_le _ _
  have hd8 : (layout x).dd + 8 ≤ x.length := Nat.le_trans h.dd_le hend
  have hd : (layout x).dd ≤ x.length := Nat.le_trans (Nat.le_add_right _ 8) hd8
  have e : certAddr x = x.length - certSize x := Nat.eq_sub_of_add_eq ha
  -- the file cut at the directory entry, behind it, and at the table
  have s1 := slice_split x (i := 0) (j := x.length) (Nat.zero_le _) hd hd
  have s2 := slice_split x (i := (layout x).dd) (j := x.length) (Nat.le_add_right _ 8) hd8 hd8
  have s3 := slice_split x (i := (layout x).dd + 8) (j := x.length) h.dd_le hend hend
  have s0 := slice_all x
  rw [s1, s2, s3] at s0
  simp only [Parsed.bytes, wfParsed]
  rw [pad8_eq_zero h8, ha, e]
  simp only [zeros, List.replicate_zero, List.append_nil, List.append_assoc]
  exact s0

/-- for a receiver that has a table (`hv`, `hs`): without one `AppendSignature` reads `length` as well -/
theorem appendSignature_bytes_congr (q q' : Parsed) (s : Bytes) (h1 : q'.ddVA = q.ddVA)
    (h2 : q'.ddSize = q.ddSize) (hv : q.ddVA ≠ 0) (hs : q.ddSize ≠ 0) (hf : q'.first = q.first)
    (hl : q'.last ++ zeros q'.padding = q.last ++ zeros q.padding)
    (ht : q'.certTable = q.certTable) :
    (q'.appendSignature s).bytes = (q.appendSignature s).bytes := by
  unfold Parsed.appendSignature Parsed.bytes
  simp only []
  rw [if_pos ⟨by rw [h1]; exact hv, by rw [h2]; exact hs⟩, if_pos ⟨hv, hs⟩]
  simp only [h1, h2, hf, ht]
  have : ∀ (a d l z c : Bytes), a ++ d ++ l ++ z ++ c = a ++ (d ++ ((l ++ z) ++ c)) := by
    intros; simp only [List.append_assoc]
  rw [this, this, hl]

/-! ### the strict certificate-table walker of the specification -/

theorem walkTable_nil (f : Nat) : walkTable f [] = some [] := by
  cases f <;> simp [walkTable]

/-- the first entry the walker reads from `t` -/
def headEntry (t : Bytes) : CertEntry :=
  ⟨rd32 (t.take 4), rd16 ((t.drop 4).take 2), rd16 ((t.drop 6).take 2), (t.take (rd32 (t.take 4))).drop 8⟩

/-- bytes the first entry occupies -/
def headSpan (t : Bytes) : Nat := rd32 (t.take 4) + pad8 (rd32 (t.take 4))

/-- one turn of the strict walker on a table that is not empty -/
theorem walkTable_succ (f : Nat) {t : Bytes} (hne : t ≠ []) :
    walkTable (f+1) t =
      if 8 ≤ t.length ∧ 8 ≤ rd32 (t.take 4) ∧ headSpan t ≤ t.length then
        (walkTable f (t.drop (headSpan t))).map (headEntry t :: ·)
      else none := by
  have he : t.isEmpty = false := by simpa using hne
  rw [walkTable, he]
  unfold headSpan
  simp only [Bool.false_eq_true, if_false]
  by_cases h8 : t.length < 8
  · rw [if_pos h8, if_neg (by omega)]
  rw [if_neg h8]
  by_cases hc : rd32 (t.take 4) < 8 ∨ t.length < rd32 (t.take 4) + pad8 (rd32 (t.take 4))
  · rw [if_pos hc, if_neg (by omega)]
  rw [if_neg hc, if_pos (by omega)]
  cases walkTable f (t.drop (rd32 (t.take 4) + pad8 (rd32 (t.take 4)))) <;> rfl

/-- `t` is exactly the entries `es`, each with its padding: what the strict walker accepts, without fuel -/
inductive Walk : Bytes → List CertEntry → Prop
  | nil : Walk [] []
  | cons {t : Bytes} {es : List CertEntry} : 8 ≤ t.length → 8 ≤ rd32 (t.take 4) → headSpan t ≤ t.length →
      Walk (t.drop (headSpan t)) es → Walk t (headEntry t :: es)

theorem walk_of_walkTable : ∀ (f : Nat) {t : Bytes} {es : List CertEntry},
    walkTable f t = some es → Walk t es := by
  intro f
  induction f with
  | zero =>
    intro t es h
    unfold walkTable at h
    split at h
    · rename_i he
      cases h
      rw [List.isEmpty_iff.mp he]
      exact .nil
    · cases h
  | succ f ih =>
    intro t es h
    by_cases hne : t = []
    · subst hne
      rw [walkTable_nil] at h
      cases h
      exact .nil
    · rw [walkTable_succ f hne] at h
      split at h
      · rename_i hc
        obtain ⟨es0, h0, rfl⟩ := Option.map_eq_some_iff.mp h
        exact .cons hc.1 hc.2.1 hc.2.2 (ih h0)
      · cases h

theorem Walk.walkTable {t : Bytes} {es : List CertEntry} (w : Walk t es) :
    ∀ f, es.length ≤ f → walkTable f t = some es := by
  induction w with
  | nil => exact fun f _ => walkTable_nil f
  | cons h8 hl hfit _ ih =>
    intro f hf
    match f, hf with
    | f' + 1, hf =>
      rw [walkTable_succ f' (List.ne_nil_of_length_pos (by omega)), if_pos ⟨h8, hl, hfit⟩,
        ih f' (Nat.le_of_succ_le_succ hf)]
      rfl

theorem Walk.length {t : Bytes} {es : List CertEntry} (w : Walk t es) : 8 * es.length ≤ t.length := by
  induction w with
  | nil => simp
  | cons h8 hl hfit _ ih =>
    simp only [List.length_drop, List.length_cons] at ih ⊢
    unfold headSpan at *
    omega

theorem headEntry_append (t e : Bytes) (h8 : 8 ≤ t.length) (hfit : rd32 (t.take 4) ≤ t.length) :
    headEntry (t ++ e) = headEntry t ∧ headSpan (t ++ e) = headSpan t := by
  have e4 : (t ++ e).take 4 = t.take 4 := List.take_append_of_le_length (by omega)
  have d4 : ((t ++ e).drop 4).take 2 = (t.drop 4).take 2 := by
    rw [List.drop_append_of_le_length (by omega), List.take_append_of_le_length (by simp; omega)]
  have d6 : ((t ++ e).drop 6).take 2 = (t.drop 6).take 2 := by
    rw [List.drop_append_of_le_length (by omega), List.take_append_of_le_length (by simp; omega)]
  unfold headEntry headSpan
  rw [e4, d4, d6, List.take_append_of_le_length hfit]
  exact ⟨rfl, rfl⟩

theorem Walk.append {t e : Bytes} {es es2 : List CertEntry} (w : Walk t es) (w2 : Walk e es2) :
    Walk (t ++ e) (es ++ es2) := by
  induction w with
  | nil => exact w2
  | @cons t es h8 hl hfit _ ih =>
    obtain ⟨e1, e2⟩ := headEntry_append t e h8 (by unfold headSpan at hfit; omega)
    rw [List.cons_append, ← e1]
    refine .cons (by simp; omega) (by rw [List.take_append_of_le_length (by omega)]; exact hl)
      (by rw [e2]; simp; omega) ?_
    rw [e2, List.drop_append_of_le_length hfit]
    exact ih

/-- what `ReadWinCertificate` returns, in the walker's terms -/
theorem readWinCert_head {t : Bytes} {w : WinCert} {rest : Bytes}
    (h : readWinCert t = .ok (w, rest)) :
    (⟨w.length, w.rev, w.ctype, w.cert⟩ : CertEntry) = headEntry t ∧
    rest = t.drop (rd32 (t.take 4)) ∧ w.length = rd32 (t.take 4) ∧ w.rev = 0x0200 := by
  obtain ⟨⟨hlen, hlt, hrev, hct⟩, rfl⟩ := readWinCert_eq_ok.mp h
  have hr : w.rev < 2^16 := by rw [hrev]; decide
  have hwl := WinCert.WF.length_eq ⟨hlen, hlt, hrev, hct⟩
  -- the header is cut like a GUID: 4, 2 and 2 bytes
  obtain ⟨t4, d4, d6, d8⟩ := split4 (le32 w.length) (le16 w.rev) (le16 w.ctype) (w.cert ++ rest) rfl rfl rfl
  rw [← List.append_assoc _ w.cert rest, ← writeWinCert] at t4 d4 d6 d8
  unfold headEntry
  rw [t4, d4, d6, rd32_le32 _ hlt, rd16_le16 _ hr, rd16_le16 _ hct, List.drop_take, d8, hlen,
    Nat.add_sub_cancel_left, List.take_left' rfl, ← hlen, List.drop_left' hwl]
  exact ⟨rfl, rfl, rfl, hrev⟩

/-- where the loop of `Signatures()` goes on is where the walker goes on -/
theorem readWinCert_next {t : Bytes} {w : WinCert} {rest : Bytes}
    (h : readWinCert t = .ok (w, rest)) : rest.drop (pad8 w.length) = t.drop (headSpan t) := by
  obtain ⟨_, hrest, hwl, _⟩ := readWinCert_head h
  rw [hrest, hwl, List.drop_drop]
  rfl

/-- a turn of `Signatures()` consumes at least the 8 header bytes -/
theorem readWinCert_shorter {t rest : Bytes} {w : WinCert} (h : readWinCert t = .ok (w, rest)) (k : Nat) :
    (rest.drop k).length + 8 ≤ t.length := by
  have := (readWinCert_size h).1
  rw [List.length_drop]
  omega

theorem readWinCert_sigEntry (sig : Bytes) (h32 : 8 + sig.length < 2^32) :
    readWinCert (sigEntry sig) =
      .ok (⟨8 + sig.length, 0x0200, 2, sig⟩, zeros (pad8 (8 + sig.length))) :=
  readWinCert_eq_ok.mpr ⟨⟨rfl, h32, rfl, show 2 < 2^16 by decide⟩, rfl⟩

theorem walk_sigEntry (sig : Bytes) (h32 : 8 + sig.length < 2^32) :
    Walk (sigEntry sig) [⟨8 + sig.length, 0x0200, 2, sig⟩] := by
  obtain ⟨hhead, _, hlen, _⟩ := readWinCert_head (readWinCert_sigEntry sig h32)
  have hlen : rd32 ((sigEntry sig).take 4) = 8 + sig.length := hlen.symm
  have hE := sigEntry_length sig
  have hspan : headSpan (sigEntry sig) = (sigEntry sig).length := by
    unfold headSpan
    rw [hlen, hE]
  rw [hhead]
  refine .cons (by omega) (by omega) (by omega) ?_
  rw [hspan, List.drop_length]
  exact .nil

/-- a strict reading of the certificate table that succeeds: no table and no entries, or a table that is the 8-aligned
    tail of the file and that the strict walker accepts -/
theorem certEntries_inv {b : Bytes} {es : List CertEntry} (he : certEntries b = some es) :
    (certSize b = 0 ∧ es = []) ∨
    (certSize b ≠ 0 ∧ ¬(certAddr b % 8 ≠ 0 ∨ certAddr b + certSize b ≠ b.length) ∧
      walkTable (certSize b) (slice b (certAddr b) (certAddr b + certSize b)) = some es) := by
  unfold certEntries at he
  simp only [] at he
  split at he
  · exact .inl ⟨‹_›, (Option.some.inj he).symm⟩
  · split at he
    · cases he
    · exact .inr ⟨‹_›, ‹_›, he⟩

theorem certEntries_walk {b : Bytes} {es : List CertEntry}
    (he : certEntries b = some es) : Walk (slice b (certAddr b) (certAddr b + certSize b)) es := by
  rcases certEntries_inv he with ⟨hc, rfl⟩ | ⟨_, _, hw⟩
  · rw [table_nil hc]
    exact .nil
  · exact walk_of_walkTable _ hw

theorem certEntries_unsigned {b : Bytes} (hc : certSize b = 0) : certEntries b = some [] := by
  unfold certEntries
  simp [hc]

theorem Signed.entries {b sig o : Bytes} (sg : Signed b sig o) (h : WF b)
    (h32 : 8 + sig.length < 2^32) {es : List CertEntry} (he : certEntries b = some es) :
    certEntries o = some (es ++ [⟨8 + sig.length, 0x0200, 2, sig⟩]) := by
  obtain ⟨n1, _, n3, _, _, n6⟩ := sg.nums h
  have hw := (certEntries_walk he).append (walk_sigEntry sig h32)
  -- eight bytes per entry: the table size is fuel enough
  have hlen := hw.length
  simp only [List.length_append] at hlen
  rw [table_length h, ← newSize_eq] at hlen
  unfold certEntries
  simp only []
  rw [sg.certSize_eq h, sg.certAddr_eq h, if_neg n6, if_neg (fun hbad => hbad.elim (· n1) (· n3)), n3, sg.tab]
  exact hw.walkTable _ (by rw [List.length_append]; omega)

theorem Walk.walkPrefix {t : Bytes} {es : List CertEntry} (w : Walk t es) :
    ∀ f, es.length ≤ f → Spec.PE.walkPrefix f t = es := by
  induction w with
  | nil => intro f _; cases f <;> rfl
  | @cons t es h8 hl hfit _ ih =>
    intro f hf
    match f, hf with
    | f' + 1, hf =>
      unfold Spec.PE.walkPrefix
      unfold headSpan at hfit
      rw [if_neg (by omega)]
      simp only
      rw [if_neg (by omega)]
      show _ :: Spec.PE.walkPrefix f' (t.drop (headSpan t)) = _
      rw [ih f' (Nat.le_of_succ_le_succ hf)]
      rfl

/-! ### `Signatures()` against the strict walker -/

theorem signaturesAux_short (f : Nat) {t : Bytes} (h : t.length ≤ 8) : signaturesAux f t = .ok [] := by
  cases f with
  | zero => rfl
  | succ f => unfold signaturesAux; rw [if_pos h]

theorem signaturesAux_step (f : Nat) {t rest : Bytes} {w : WinCert} (h8 : 8 < t.length)
    (hr : readWinCert t = .ok (w, rest)) :
    signaturesAux (f+1) t =
      match signaturesAux f (rest.drop (pad8 w.length)) with
      | .ok ws => .ok (w :: ws)
      | .err => .err
      | .panic => .panic
      | .exit => .exit := by
  rw [signaturesAux, if_neg (by omega), hr]
  rfl

/-- a turn of `Signatures()` that went through: the reader accepted an entry, and the loop went on where the walker goes on -/
theorem signaturesAux_succ_inv {f : Nat} {t : Bytes} {ws : List WinCert}
    (h : signaturesAux (f+1) t = .ok ws) (h8 : 8 < t.length) :
    ∃ w rest ws0, readWinCert t = .ok (w, rest) ∧
      signaturesAux f (t.drop (headSpan t)) = .ok ws0 ∧ ws = w :: ws0 := by
  -- of the seven ways through a turn only `.ok` from the reader followed by `.ok` from the rest of the loop gives `.ok`
  rw [signaturesAux, if_neg (by omega)] at h
  split at h <;> try cases h
  rename_i w rest hr
  split at h <;> cases h
  rename_i ws0 h0
  exact ⟨w, rest, ws0, hr, readWinCert_next hr ▸ h0, rfl⟩

theorem signaturesAux_fuel_irrel : ∀ (f1 f2 : Nat) (t : Bytes),
    t.length / 8 ≤ f1 → t.length / 8 ≤ f2 → signaturesAux f1 t = signaturesAux f2 t := by
  refine fuel_irrel (fun t : Bytes => t.length / 8) (fun f t h => ?_) ?_
  · rw [signaturesAux_short f (by omega), signaturesAux_short 0 (by omega)]
  intro f f' t ih
  unfold signaturesAux
  split
  · rfl
  · cases hw : readWinCert t with
    | ok v =>
      have := readWinCert_shorter (w := v.1) (rest := v.2) hw (pad8 v.1.length)
      simp only
      rw [ih _ (by omega)]
    | err => rfl
    | panic => rfl
    | exit => rfl

/-- `Signatures()` returns for every table and every fuel (F6), and the bodies it returns, each with its 8-byte
    header, fit in the table -/
theorem signaturesAux_spec (fuel : Nat) (t : Bytes) :
    (signaturesAux fuel t).Ensures fun ws => (ws.map fun w => 8 + w.cert.length).sum ≤ t.length := by
  induction fuel generalizing t with
  | zero => exact .ok (Nat.zero_le _)
  | succ fuel ih =>
    unfold signaturesAux
    refine .ite' (.ok (Nat.zero_le _)) ((readWinCert_ensures t).elim (fun (w, rest) hw => ?_) .err)
    dsimp only
    refine (ih _).elim (fun ws hws => .ok ?_) .err
    show ((w :: ws).map fun w => 8 + w.cert.length).sum ≤ t.length
    have hw : t.length = 8 + w.cert.length + rest.length := by rw [hw.2, List.length_append, writeWinCert_length]
    rw [List.length_drop] at hws
    rw [List.map_cons, List.sum_cons]
    omega

theorem _root_.GoUefi.Impl.Parsed.signatures_spec (p : Parsed) :
    p.signatures.Ensures fun ws => (ws.map fun w => 8 + w.cert.length).sum ≤ p.certTable.length :=
  signaturesAux_spec _ _

theorem signatures_congr {p p' : Parsed} (h : p'.certTable = p.certTable) :
    p'.signatures = p.signatures := by
  unfold Parsed.signatures; rw [h]

theorem readWinCert_append {t : Bytes} {w : WinCert} {rest : Bytes}
    (h : readWinCert t = .ok (w, rest)) (e : Bytes) : readWinCert (t ++ e) = .ok (w, rest ++ e) := by
  obtain ⟨hw, rfl⟩ := readWinCert_eq_ok.mp h
  exact readWinCert_eq_ok.mpr ⟨hw, List.append_assoc _ _ _⟩

/-- `Signatures()` on a strictly walkable table whose entries all have a body, followed by more
    entries: the old list followed by the list of the rest, with fuel enough for both -/
theorem Walk.signatures_append {t : Bytes} {es : List CertEntry} (w : Walk t es) :
    (∀ x ∈ es, 8 < x.length) →
    ∀ (f1 : Nat) (ws : List WinCert), signaturesAux f1 t = .ok ws → es.length ≤ f1 →
    ∀ (e : Bytes) (wsE : List WinCert) (f2 : Nat), e.length / 8 ≤ f2 → signaturesAux f2 e = .ok wsE →
    signaturesAux (f1 + f2) (t ++ e) = .ok (ws ++ wsE) := by
  induction w with
  | nil =>
    intro _ f1 ws hs _ e wsE f2 hf2 hE
    rw [signaturesAux_short f1 (by simp)] at hs
    cases hs
    rw [List.nil_append, List.nil_append,
      signaturesAux_fuel_irrel (f1 + f2) f2 e (Nat.le_trans hf2 (Nat.le_add_left _ _)) hf2]
    exact hE
  | @cons t es h8 hl hfit _ ih =>
    intro hbody f1 ws hs hf1 e wsE f2 hf2 hE
    have hlen : 8 < rd32 (t.take 4) := hbody (headEntry t) List.mem_cons_self
    have hspan : headSpan t = rd32 (t.take 4) + pad8 (rd32 (t.take 4)) := rfl
    match f1, hs, hf1 with
    | f1' + 1, hs, hf1 =>
      obtain ⟨w, rest, ws0, hr, hs0, rfl⟩ := signaturesAux_succ_inv hs (by omega)
      obtain ⟨_, _, hwl, _⟩ := readWinCert_head hr
      have hsize := readWinCert_size hr
      have := ih (fun x hx => hbody x (List.mem_cons_of_mem _ hx)) f1' ws0 hs0
        (Nat.le_of_succ_le_succ hf1) e wsE f2 hf2 hE
      rw [Nat.add_right_comm f1' 1 f2]
      have hd2 : (rest ++ e).drop (pad8 w.length) = t.drop (headSpan t) ++ e := by
        rw [List.drop_append_of_le_length (by rw [hwl]; omega), readWinCert_next hr]
      rw [signaturesAux_step _ (by simp; omega) (readWinCert_append hr e), hd2, this]
      rfl

theorem signaturesAux_sigEntry (sig : Bytes) (h32 : 8 + sig.length < 2^32) (hne : sig ≠ [])
    (f : Nat) (hf : 1 ≤ f) :
    signaturesAux f (sigEntry sig) = .ok [⟨8 + sig.length, 0x0200, 2, sig⟩] := by
  have hpos : 0 < sig.length := List.length_pos_iff.mpr hne
  match f, hf with
  | f' + 1, _ =>
    rw [signaturesAux_step _ (by rw [sigEntry_length]; omega) (readWinCert_sigEntry sig h32),
      signaturesAux_short _ (by simp)]

theorem Signed.verify_fresh {b sig o : Bytes} (sg : Signed b sig o) (h : WF b) (hc : certSize b = 0)
    (h32 : 8 + sig.length < 2^32) (hne : sig ≠ []) (C : Crypto) (ok : Bytes → Bool) (c : Cert) :
    (wfParsed o).verify C ok c =
      verifySigs C ok c (authInputPadded b) [⟨8 + sig.length, 0x0200, 2, sig⟩] := by
  have hs : (wfParsed o).signatures = .ok [⟨8 + sig.length, 0x0200, 2, sig⟩] := by
    unfold Parsed.signatures
    rw [sg.certTable_fresh h hc]
    exact signaturesAux_sigEntry sig h32 hne _ (by rw [sigEntry_length]; omega)
  unfold Parsed.verify
  rw [hs, sg.hashStream h]

/-! ### the `Verify` functions -/
open GoUefi.Der

/-- `split` the outermost `match` of a parser hypothesis and discharge the failing branch -/
local macro "step " h:ident : tactic =>
  `(tactic| (split at $h:ident <;> try (simp at $h:ident; done)))

/-- (digest algorithm, digest) of the DigestInfo inside the content of a SignedData whose content
    type is SpcIndirectDataContent — the reads `ParseAuthenticode` performs on `PKCS7.Content` -/
def digestOfContent (content : Bytes) : Option (List Nat × Bytes) :=
  match read tSEQ content with
  | none => none
  | some (der, _) =>
    match read tSEQ der with
    | none => none
    | some (_, der1) =>
      match read tSEQ der1 with
      | none => none
      | some (di, _) =>
        match parseAlg di with
        | none => none
        | some (alg, di1) =>
          match read tOCT di1 with
          | none => none
          | some (digest, _) => some (alg, digest)

theorem parseAuthenticode_inv {ok : Bytes → Bool} {blob : Bytes} {a : Auth}
    (h : parseAuthenticode ok blob = some a) :
    parseP7 ok blob = some a.pkcs ∧ a.pkcs.oid = oidSpcIndirectData ∧
    ∃ der r0 spc der1 di r1 di1 r2, read tSEQ a.pkcs.content = some (der, r0) ∧
      read tSEQ der = some (spc, der1) ∧ read tSEQ der1 = some (di, r1) ∧
      parseAlg di = some (a.alg, di1) ∧ read tOCT di1 = some (a.digest, r2) := by
  unfold parseAuthenticode at h
  step h
  rename_i p hp
  split at h
  · cases h
  · rename_i hoid
    step h
    rename_i der r0 h1
    step h
    rename_i spc der1 h2
    step h
    rename_i dtype spc1 h3
    split at h
    · cases h
    · step h
      step h
      rename_i di r1 h5
      step h
      rename_i alg di1 h6
      step h
      rename_i digest r2 h7
      simp at h
      subst h
      exact ⟨hp, by simpa using hoid, der, r0, spc, der1, di, r1, di1, r2, h1, h2, h5, h6, h7⟩

theorem _root_.GoUefi.Impl.Auth.verify_ne_exit (C : Crypto) (a : Auth) (c : Cert) (stream : Bytes) :
    a.verify C c stream ≠ .exit := by
  unfold Impl.Auth.verify
  split
  · simp
  · split
    · simp
    · split
      · simp
      · exact P7.verify_ne_exit C a.pkcs c

/-- `Authenticode.Verify` on what `ParseAuthenticode` returned: it returns, and a verdict is the verdict of the
    PKCS#7 verification after the three checks on the digest passed -/
theorem Auth.verify_spec {C : Crypto} {ok : Bytes → Bool} {b : Bytes} {a : Auth} (c : Cert) (stream : Bytes)
    (h : parseAuthenticode ok b = some a) : (a.verify C c stream).Ensures fun v =>
      a.alg = oidSha256 ∧ a.digest.length = 32 ∧ a.digest = C.sha256 stream ∧ a.pkcs.verify C c = .ok v := by
  unfold Impl.Auth.verify
  exact .guard fun h1 => .guard fun h2 => .guard fun h3 =>
    (Outcome.Ensures.of_returns (P7.verify_parsed_total c (parseAuthenticode_inv h).1)).and_eq.mono fun v hv =>
      ⟨by simpa using h1, by simpa using h2, (by simpa using h3 : C.sha256 stream = a.digest).symm, hv.1⟩

/-- the loop of `PECOFFBinary.Verify` returns, and `true` is the only value it returns: some entry parsed and answered
    `true`, the entries in front of it parsed and answered `false` (anything else ends it with an error) -/
theorem verifySigs_spec (C : Crypto) (ok : Bytes → Bool) (c : Cert) (stream : Bytes) (ws : List WinCert) :
    (verifySigs C ok c stream ws).Ensures fun v => v = true ∧ ∃ pre w post, ws = pre ++ w :: post ∧
      (∀ x ∈ pre, ∃ a, parseAuthenticode ok x.cert = some a ∧ a.verify C c stream = .ok false) ∧
      ∃ a, parseAuthenticode ok w.cert = some a ∧ a.verify C c stream = .ok true := by
  induction ws with
  | nil => exact .err
  | cons w ws ih =>
    unfold verifySigs
    split
    · exact .err
    · rename_i a ha
      refine (Auth.verify_spec c stream ha).and_eq.elim (fun v hv => ?_) .err
      cases v with
      | true => exact .ok ⟨rfl, [], w, ws, rfl, nofun, a, ha, hv.1⟩
      | false =>
        refine ih.mono fun v ⟨hv', pre, w', post, e, hpre, hw'⟩ => ⟨hv', w :: pre, w', post, by rw [e]; rfl, ?_, hw'⟩
        intro x hx
        rcases List.mem_cons.mp hx with rfl | hx
        · exact ⟨a, ha, hv.1⟩
        · exact hpre x hx

/-- `PECOFFBinary.Verify` returns, and it answers `true` only when `Signatures()` lists at least one entry and the
    loop over them answers `true` -/
theorem verify_spec (C : Crypto) (ok : Bytes → Bool) (p : Parsed) (c : Cert) :
    (p.verify C ok c).Ensures fun v => v = true ∧ ∃ w ws, p.signatures = .ok (w :: ws) ∧
      verifySigs C ok c (hashStream p) (w :: ws) = .ok true := by
  unfold Parsed.verify
  refine p.signatures_spec.elim (fun ws _ => ?_) .err
  cases ws with
  | nil => exact .err
  | cons w ws =>
    exact (verifySigs_spec C ok c (hashStream p) (w :: ws)).and_eq.mono fun v hv =>
      ⟨hv.2.1, w, ws, rfl, hv.2.1 ▸ hv.1⟩

/-- success of the loop: the first entry parses and passes the digest check (an entry that fails
    it ends the loop with an error) -/
theorem verifySigs_head {C : Crypto} {ok : Bytes → Bool} {c : Cert} {stream : Bytes}
    {w : WinCert} {ws : List WinCert} (h : verifySigs C ok c stream (w :: ws) = .ok true) :
    ∃ a v, parseAuthenticode ok w.cert = some a ∧ a.verify C c stream = .ok v := by
  obtain ⟨_, pre, w', post, e, hpre, a, ha, hav⟩ := (verifySigs_spec C ok c stream _).of_ok h
  cases pre with
  | nil => cases e; exact ⟨a, true, ha, hav⟩
  | cons x pre =>
    cases e
    obtain ⟨a', ha', hv'⟩ := hpre w List.mem_cons_self
    exact ⟨a', false, ha', hv'⟩

/-! ### what `Verify` accepts, in the terms of `Spec.authenticodeVerify` -/

/-- the digest and its algorithm are what the specification reads from the content's value octets -/
theorem parseAuthenticode_spcDigest {ok : Bytes → Bool} {blob : Bytes} {a : Auth}
    (h : parseAuthenticode ok blob = some a) :
    ∃ der r0, readAny a.pkcs.content = some (tSEQ, der, r0) ∧
      Spec.spcDigest der = some (a.alg, a.digest) := by
  obtain ⟨_, _, der, r0, spc, der1, di, r1, di1, r2, h1, h2, h3, h4, h5⟩ := parseAuthenticode_inv h
  obtain ⟨ab, ar, h6, h7⟩ := parseAlg_inv h4
  refine ⟨der, r0, read_readAny h1, ?_⟩
  simp [Spec.spcDigest, h2, h3, h6, h7, h5]

/-- every signature `Signatures()` lists is an entry of the strict walk, with revision 2.0 -/
theorem Walk.signatures_sub {t : Bytes} {es : List CertEntry} (w : Walk t es) :
    ∀ (f1 : Nat) (ws : List WinCert), signaturesAux f1 t = .ok ws →
    ∀ x ∈ ws, (⟨x.length, x.rev, x.ctype, x.cert⟩ : CertEntry) ∈ es ∧ x.rev = 0x0200 := by
  induction w with
  | nil =>
    intro f1 ws hs x hw
    rw [signaturesAux_short f1 (by simp)] at hs
    cases hs; cases hw
  | @cons t es _ hl hfit _ ih =>
    intro f1 ws hs x hw
    by_cases h8 : t.length ≤ 8
    · rw [signaturesAux_short f1 h8] at hs
      cases hs; cases hw
    · cases f1 with
      | zero => cases hs; cases hw
      | succ f1 =>
        obtain ⟨w0, rest, ws0, hr, hs0, rfl⟩ := signaturesAux_succ_inv hs (by omega)
        obtain ⟨hent, _, _, hrev⟩ := readWinCert_head hr
        rcases List.mem_cons.mp hw with rfl | hw'
        · exact ⟨by rw [hent]; exact List.mem_cons_self, hrev⟩
        · obtain ⟨k1, k2⟩ := ih f1 ws0 hs0 x hw'
          exact ⟨List.mem_cons_of_mem _ k1, k2⟩

/-- `Spec.contentOf` with the stage `specBody` that it shares with `Spec.parseSignedData` named (`rfl`: the same `do` block) -/
theorem contentOf_eq (blob : Bytes) :
    Spec.contentOf blob = (do
      let (outer, _) ← read tSEQ blob
      let sdBody ← specBody outer
      let (_, r1) ← readBigInt sdBody
      let (_, r2) ← read tSET r1
      let (eci, _) ← read tSEQ r2
      let (oid, e1) ← readOID eci
      let (c, _) ← read tCtx0 e1
      let (_, v, _) ← readAny c
      pure (oid, v)) := rfl

/-- the specification's (eContentType, content value octets) of a blob the implementation parsed -/
theorem contentOf_of_parseP7 {ok : Bytes → Bool} {blob : Bytes} {p : P7}
    (h : parseP7 ok blob = some p) {t : UInt8} {v r0 : Bytes}
    (hc : readAny p.content = some (t, v, r0)) : Spec.contentOf blob = some (p.oid, v) := by
  obtain ⟨r3, r4, sis, z, hh, _, _, _⟩ := parseP7_inv h
  obtain ⟨chk, x, inner, sd, y, ver, r1, dig, r2, o, z', h1, hin, h2, h3, h4, _, h6⟩ :=
    parseHead_inv hh
  obtain ⟨eci, e1, c, k1, k2, k3, k4⟩ := parseContentInfo_inv h6
  have hA := specBody_of_parseHead h1 hin h2
  have h3' := readBigInt_of_readInt64 h3
  rcases readOptional_inv k3 with ⟨rfl, _, _⟩ | ⟨cc, rfl, _, hr, _⟩
  · simp only [Option.getD_none] at k4
    rw [k4] at hc
    simp [readAny] at hc
  · simp only [Option.getD_some] at k4
    rw [k4] at hc
    rw [contentOf_eq]
    simp [h1, hA, h3', h4, k1, k2, hr, hc]

end PeSign

/-! ### concrete values for the non-vacuity examples of C03 / C02 -/
namespace PeSignEx
open GoUefi.Spec.PE GoUefi.Impl GoUefi.PeExample

/-- what `Parse` returns (a dummy when it fails) -/
def parsed (b : Bytes) : Parsed :=
  match parse b (factsOf b) with
  | .ok p => p
  | _ => ⟨0, 0, [], 0, 0, [], [], [], [], false⟩

theorem parsed_eq {b : Bytes} (h : WF b) : parsed b = wfParsed b := by
  unfold parsed
  rw [parse_of_wf h]

theorem parse_parsed {b : Bytes} (h : WF b) : parse b (factsOf b) = .ok (parsed b) := by
  rw [parsed_eq h]
  exact parse_of_wf h

theorem parse_img64 : parse img64 (factsOf img64) = .ok (parsed img64) := parse_parsed wf_img64
theorem parse_img64s : parse img64s (factsOf img64s) = .ok (parsed img64s) := parse_parsed wf_img64s

/-- a 3-byte "signature": the entry takes 11 + 5 bytes -/
def sig3 : Bytes := [0xde, 0xad, 0xbe]

theorem sig3_fits : img64.length + 8 + sig3.length + 16 < 2^32 ∧
    img64s.length + 8 + sig3.length + 16 < 2^32 := by
  obtain ⟨_, _, _, _, _, lens, _⟩ := img64s_facts
  rw [length_img64, lens]
  decide

/-- a signed image whose only table entry has an empty body (dwLength = 8) -/
def img8 : Bytes := mkImg true 0 (zeros 8) (le32 8 ++ le16 0x0200 ++ le16 2)

/-- all that is evaluated about `img8`: `Signatures()` does not list its one entry before signing, but lists it
    afterwards -/
theorem img8_facts : wfCheck img8 = true ∧ certEntries img8 = some [⟨8, 0x0200, 2, []⟩] ∧
    (parsed img8).signatures = .ok [] ∧
    ((parsed img8).appendSignature sig3).signatures =
      .ok [⟨8, 0x0200, 2, []⟩, ⟨11, 0x0200, 2, sig3⟩] := by
  decide +kernel

theorem wf_img8 : WF img8 := (wfCheck_iff _).mp img8_facts.1
theorem parse_img8 : parse img8 (factsOf img8) = .ok (parsed img8) := parse_parsed wf_img8

/-! #### a really signed image, under toy cryptography -/

/-- toy cryptography: the digest is the reversed message cut / zero-filled to 32 bytes (so it sees
    the *end* of the message); a signature is valid iff it is the key's modulus byte followed by
    the signed bytes -/
def toy32 : Crypto := ⟨fun x => (x.reverse ++ zeros 32).take 32, fun k m s => s == k.n.toUInt8 :: m⟩
def allOk : Bytes → Bool := fun _ => true
def issuer : Bytes := Der.addASN1 Der.tSEQ []
def cert : Cert := ⟨issuer, 5, ⟨7, 3⟩⟩
/-- another certificate with the same issuer and serial but another key -/
def certOtherKey : Cert := ⟨issuer, 5, ⟨8, 3⟩⟩
/-- "250101000000Z" -/
def time : Bytes := [0x32, 0x35, 0x30, 0x31, 0x30, 0x31, 0x30, 0x30, 0x30, 0x30, 0x30, 0x30, 0x5a]

/-- the SpcIndirectDataContent for `img64` -/
def content0 : Bytes := spcIndirectData (toy32.sha256 (hashStream (parsed img64)))
def attrsB : Bytes :=
  (attrsBody { contentType := some oidSpcIndirectData, md := toy32.sha256 content0, time := some time }).getD []
/-- the Authenticode signature of `img64` by `cert`, as `SignPKCS7` writes it -/
def blob : Bytes :=
  (signPKCS7 oidSpcIndirectData content0 [] issuer 5 time (toy32.sha256 content0)
    (7 :: Der.addASN1 Der.tSET attrsB)).getD []

/-- `img64` signed -/
def imgSigned : Bytes := ((parsed img64).appendSignature blob).bytes
/-- the signature of `img64` transplanted onto `img64'` (which differs in a covered byte) -/
def imgSigned' : Bytes := ((parsed img64').appendSignature blob).bytes
/-- `img64`, padded, with the same signature in an entry of certificate type 0x0EF1 -/
def imgEf : Bytes :=
  mkImg true 0 ([1, 2, 3, 4, 5] ++ zeros 3)
    (writeWinCert ⟨8 + blob.length, 0x0200, 0x0EF1, blob⟩ ++ zeros (pad8 (8 + blob.length)))

open GoUefi.PeSign

/-- all that is evaluated about `blob`, in one declaration so that the kernel builds it once: its length, the
    verdicts of the signature loop on the one table entry holding it against the hash streams of `img64` and
    `img64'` (which the toy digest tells apart), the digest it embeds, and the three facts about `imgEf`, which holds it -/
theorem blob_facts : blob.length = 434 ∧
    verifySigs toy32 allOk cert (hashStream (parsed img64)) [⟨8 + blob.length, 0x0200, 2, blob⟩] = .ok true ∧
    verifySigs toy32 allOk certOtherKey (hashStream (parsed img64)) [⟨8 + blob.length, 0x0200, 2, blob⟩] = .err ∧
    verifySigs toy32 allOk cert (hashStream (parsed img64')) [⟨8 + blob.length, 0x0200, 2, blob⟩] = .err ∧
    toy32.sha256 (hashStream (parsed img64)) ≠ toy32.sha256 (hashStream (parsed img64')) ∧
    (parseAuthenticode allOk blob).map (fun a => (a.alg, a.digest)) =
      some (oidSha256, toy32.sha256 (hashStream (parsed img64))) ∧
    (parseAuthenticode allOk blob).bind (fun a => digestOfContent a.pkcs.content) =
      some (oidSha256, toy32.sha256 (hashStream (parsed img64))) ∧
    wfCheck imgEf = true ∧ certEntries imgEf = some [⟨8 + blob.length, 0x0200, 0x0EF1, blob⟩] ∧
    (parsed imgEf).verify toy32 allOk cert = .ok true := by
  decide +kernel

theorem length_blob : blob.length = 434 := blob_facts.1
theorem blob_h32 : 8 + blob.length < 2^32 := by rw [length_blob]; decide

theorem signed64 : Signed img64 blob imgSigned :=
  signed_of_append wf_img64 parse_img64 blob blob_h32 (by rw [length_blob, length_img64]; decide)

theorem signed64' : Signed img64' blob imgSigned' :=
  signed_of_append wf_img64' (parse_parsed wf_img64') blob blob_h32 (by rw [length_blob, length_img64']; decide)

theorem wf_imgSigned : WF imgSigned := signed64.wf wf_img64
theorem wf_imgSigned' : WF imgSigned' := signed64'.wf wf_img64'
theorem parse_imgSigned : parse imgSigned (factsOf imgSigned) = .ok (parsed imgSigned) :=
  parse_parsed wf_imgSigned
theorem parse_imgSigned' : parse imgSigned' (factsOf imgSigned') = .ok (parsed imgSigned') :=
  parse_parsed wf_imgSigned'

theorem stream64 : authInputPadded img64 = hashStream (parsed img64) :=
  (hashStream_of_parse wf_img64 parse_img64).symm
theorem stream64' : authInputPadded img64' = hashStream (parsed img64') :=
  (hashStream_of_parse wf_img64' (parse_parsed wf_img64')).symm

theorem verify_signed {b o : Bytes} (sg : Signed b blob o) (h : WF b) (hc : certSize b = 0) (c : Cert) :
    (parsed o).verify toy32 allOk c =
      verifySigs toy32 allOk c (authInputPadded b) [⟨8 + blob.length, 0x0200, 2, blob⟩] := by
  have hne : blob ≠ [] := fun e => by simpa [e] using length_blob
  rw [parsed_eq (sg.wf h), sg.verify_fresh h hc blob_h32 hne]

theorem verify_imgSigned : (parsed imgSigned).verify toy32 allOk cert = .ok true := by
  rw [verify_signed signed64 wf_img64 certSize_img64, stream64]
  exact blob_facts.2.1

/-- the signature of `img64` on `img64'`: the digest comparison fails, an error -/
theorem verify_imgSigned' : (parsed imgSigned').verify toy32 allOk cert = .err := by
  obtain ⟨_, _, _, bad, _⟩ := blob_facts
  rw [verify_signed signed64' wf_img64' certSize_img64', stream64']
  exact bad

theorem certTable_imgSigned' : (parsed imgSigned').certTable = (parsed imgSigned).certTable := by
  rw [parsed_eq wf_imgSigned', parsed_eq wf_imgSigned, signed64'.certTable_fresh wf_img64' certSize_img64',
    signed64.certTable_fresh wf_img64 certSize_img64]

theorem digest_imgSigned : authInputPadded imgSigned = hashStream (parsed img64) :=
  (signed64.digest wf_img64).trans stream64

/-- the toy digest does not collide on the hash inputs of the two signed images, which are those of `img64` and `img64'` -/
theorem digests_imgSigned_differ :
    toy32.sha256 (authInputPadded imgSigned) ≠ toy32.sha256 (authInputPadded imgSigned') := by
  rw [digest_imgSigned, (signed64'.digest wf_img64').trans stream64']
  exact blob_facts.2.2.2.2.1

theorem imgEf_facts : wfCheck imgEf = true ∧
    certEntries imgEf = some [⟨8 + blob.length, 0x0200, 0x0EF1, blob⟩] ∧
    (parsed imgEf).verify toy32 allOk cert = .ok true :=
  blob_facts.2.2.2.2.2.2.2

theorem wf_imgEf : WF imgEf := (wfCheck_iff _).mp imgEf_facts.1
theorem parse_imgEf : parse imgEf (factsOf imgEf) = .ok (parsed imgEf) := parse_parsed wf_imgEf

end PeSignEx
end GoUefi

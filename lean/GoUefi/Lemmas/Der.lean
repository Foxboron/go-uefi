import GoUefi.Model.Der
import GoUefi.Lemmas.Bytes
/-!
  Round trips between the DER builder and the cryptobyte-style reader of `GoUefi/Model/Der.lean`.
  Every reader lemma is stated as a rewriting equation `reader (enc x ++ rest) = some (x, rest)`
  (with an `_nil` variant where an encoding stands alone: `enc x ++ []` is not syntactically `enc x`)
  so that it can be used with `rw` / `simp only`.
  Their side conditions are length bounds; `Fits` and `addASN1_le` / `append_le` say how such bounds
  pass from an encoding to its pieces and back.
-/
namespace GoUefi.Der
open GoUefi

/-! ### big-endian helpers -/

@[simp] theorem beBytes_length (k n : Nat) : (beBytes k n).length = k := by
  induction k with
  | zero => rfl
  | succ k ih => simp [beBytes, ih]

theorem beVal_eq_leVal (b : Bytes) : beVal b = leVal b.reverse := by
  induction b with
  | nil => rfl
  | cons x xs ih =>
    rw [beVal, ih, List.reverse_cons, leVal_append, List.length_reverse, leVal, leVal, Nat.mul_zero, Nat.add_zero,
      Nat.mul_comm, Nat.add_comm]

theorem beBytes_eq_leDigits (k n : Nat) : beBytes k n = (leDigits k n).reverse := by
  induction k with
  | zero => rfl
  | succ k ih => rw [beBytes, ih, leDigits_succ, List.reverse_append, List.reverse_singleton, List.singleton_append]

theorem beVal_beBytes_mod (k n : Nat) : beVal (beBytes k n) = n % 256^k := by
  rw [beVal_eq_leVal, beBytes_eq_leDigits, List.reverse_reverse, leVal_leDigits]

theorem beVal_beBytes (k n : Nat) (h : n < 256^k) : beVal (beBytes k n) = n := by
  rw [beVal_beBytes_mod, Nat.mod_eq_of_lt h]

theorem beBytes_beVal (b : Bytes) : beBytes b.length (beVal b) = b := by
  rw [beVal_eq_leVal, beBytes_eq_leDigits, ← List.length_reverse, leDigits_leVal, List.reverse_reverse]

theorem beVal_append (a b : Bytes) : beVal (a ++ b) = beVal a * 256^b.length + beVal b := by
  rw [beVal_eq_leVal, beVal_eq_leVal, beVal_eq_leVal, List.reverse_append, leVal_append, List.length_reverse,
    Nat.mul_comm, Nat.add_comm]

theorem beVal_lt (b : Bytes) : beVal b < 256^b.length := by
  have h := beVal_beBytes_mod b.length (beVal b)
  rw [beBytes_beVal] at h
  rw [h]
  exact Nat.mod_lt _ (Nat.pow_pos (by decide))

/-! ### lengths -/

/-- `nbytes n = k` says `256^(k-1) ≤ n < 256^k`, without a lower bound for `k = 1` and without an
    upper bound for `k = 4` -/
theorem nbytes_cases (n : Nat) :
    nbytes n = 1 ∧ n < 256 ∨ nbytes n = 2 ∧ 256 ≤ n ∧ n < 65536 ∨
    nbytes n = 3 ∧ 65536 ≤ n ∧ n < 16777216 ∨ nbytes n = 4 ∧ 16777216 ≤ n := by
  unfold nbytes
  by_cases h1 : n < 256
  · exact .inl ⟨if_pos h1, h1⟩
  rw [if_neg h1]
  by_cases h2 : n < 65536
  · exact .inr (.inl ⟨if_pos h2, Nat.le_of_not_lt h1, h2⟩)
  rw [if_neg h2]
  by_cases h3 : n < 16777216
  · exact .inr (.inr (.inl ⟨if_pos h3, Nat.le_of_not_lt h2, h3⟩))
  · exact .inr (.inr (.inr ⟨if_neg h3, Nat.le_of_not_lt h3⟩))

theorem nbytes_le (n : Nat) : 1 ≤ nbytes n ∧ nbytes n ≤ 4 := by
  rcases nbytes_cases n with ⟨e, _⟩ | ⟨e, _⟩ | ⟨e, _⟩ | ⟨e, _⟩ <;> rw [e] <;> decide

theorem nbytes_bounds (n : Nat) (hpos : 0 < n) (h : n < 2^32) :
    1 ≤ nbytes n ∧ nbytes n ≤ 4 ∧ n < 256^(nbytes n) ∧ n / 256^(nbytes n - 1) ≠ 0 := by
  -- the leading octet `n / 256^(k-1)` is not 0 because `256^(k-1) ≤ n`
  rcases nbytes_cases n with ⟨e, hlt⟩ | ⟨e, hlo, hlt⟩ | ⟨e, hlo, hlt⟩ | ⟨e, hlo⟩ <;> rw [e]
  · exact ⟨by decide, by decide, hlt, Nat.div_ne_zero_iff.mpr ⟨by decide, hpos⟩⟩
  · exact ⟨by decide, by decide, hlt, Nat.div_ne_zero_iff.mpr ⟨by decide, hlo⟩⟩
  · exact ⟨by decide, by decide, hlt, Nat.div_ne_zero_iff.mpr ⟨by decide, hlo⟩⟩
  · exact ⟨by decide, by decide, h, Nat.div_ne_zero_iff.mpr ⟨by decide, hlo⟩⟩

/-- the number of length octets the builder chooses is the only one the reader accepts -/
theorem nbytes_eq_of_bounds {n k : Nat} (h4 : k ≤ 4) (hlt : n < 256^k)
    (hne : n / 256^(k-1) ≠ 0) : nbytes n = k := by
  -- `nbytes n` and `k` both are the `j` with `256^(j-1) ≤ n < 256^j`
  have lo : ∀ {j : Nat}, n / 256^(j-1) ≠ 0 → 256^(j-1) ≤ n := fun h =>
    Nat.le_of_not_lt fun hl => h (Nat.div_eq_of_lt hl)
  obtain ⟨_, _, hlt', hne'⟩ := nbytes_bounds n (Nat.lt_of_lt_of_le (Nat.pow_pos (by decide)) (lo hne))
    (Nat.lt_of_lt_of_le hlt (Nat.pow_le_pow_right (by decide) h4))
  have a := (Nat.pow_lt_pow_iff_right (a := 256) (by decide)).mp (Nat.lt_of_le_of_lt (lo hne) hlt')
  have b := (Nat.pow_lt_pow_iff_right (a := 256) (by decide)).mp (Nat.lt_of_le_of_lt (lo hne') hlt)
  exact Nat.le_antisymm (Nat.le_of_pred_lt b) (Nat.le_of_pred_lt a)

theorem encLen_length (n : Nat) : (encLen n).length = if n < 128 then 1 else 1 + nbytes n := by
  unfold encLen; split <;> simp <;> omega

theorem encLen_length_pos (n : Nat) : 1 ≤ (encLen n).length := by
  rw [encLen_length]; split <;> omega

theorem encLen_length_le (n : Nat) : (encLen n).length ≤ 5 := by
  rw [encLen_length]; have := nbytes_le n; split <;> omega

theorem encLen_ne_nil (n : Nat) : encLen n ≠ [] := List.ne_nil_of_length_pos (encLen_length_pos n)

theorem addASN1_length (t : UInt8) (b : Bytes) :
    (addASN1 t b).length = 1 + (encLen b.length).length + b.length := by
  simp [addASN1]; omega

theorem addASN1_length_ge (t : UInt8) (b : Bytes) : b.length + 2 ≤ (addASN1 t b).length := by
  rw [addASN1_length]; have := encLen_length_pos b.length; omega

theorem addASN1_le {t : UInt8} {b : Bytes} {n : Nat} (h : b.length ≤ n) :
    (addASN1 t b).length ≤ n + 6 := by
  rw [addASN1_length]; have := encLen_length_le b.length; omega

theorem append_le {a b : Bytes} {m n : Nat} (ha : a.length ≤ m) (hb : b.length ≤ n) :
    (a ++ b).length ≤ m + n := by
  rw [List.length_append]; exact Nat.add_le_add ha hb

theorem addASN1_ne_nil (t : UInt8) (b : Bytes) : addASN1 t b ≠ [] := by
  simp [addASN1]

theorem addASN1_append_isEmpty (t : UInt8) (b rest : Bytes) : (addASN1 t b ++ rest).isEmpty = false := by
  simp [addASN1]

/-- `b` is short enough to be the body of an element (the builder's and the reader's limit).
    Every piece of such a byte string is one too, so the side conditions of a walk over nested
    elements are read off the bound for the whole by following the path to the piece. -/
def Fits (b : Bytes) : Prop := b.length < 2^32

instance (b : Bytes) : Decidable (Fits b) := Nat.decLt _ _

theorem Fits.left {a b : Bytes} (h : Fits (a ++ b)) : Fits a := by
  unfold Fits at *; rw [List.length_append] at h; exact Nat.lt_of_le_of_lt (Nat.le_add_right _ _) h

theorem Fits.right {a b : Bytes} (h : Fits (a ++ b)) : Fits b := by
  unfold Fits at *; rw [List.length_append] at h; exact Nat.lt_of_le_of_lt (Nat.le_add_left _ _) h

theorem Fits.body {t : UInt8} {b : Bytes} (h : Fits (addASN1 t b)) : Fits b :=
  Nat.lt_of_le_of_lt (Nat.le_trans (Nat.le_add_right _ 2) (addASN1_length_ge t b)) h

/-! ### TLV round trip -/

theorem readLen_encLen (n : Nat) (h : n < 2^32) (rest : Bytes) :
    readLen (encLen n ++ rest) = some (n, rest) := by
  unfold encLen
  split
  · rename_i hn
    simp [readLen, toUInt8_toNat_of_lt n (by omega), hn]
  · rename_i hn
    obtain ⟨h1, h4, hlt, hne⟩ := nbytes_bounds n (by omega) h
    have hk : (128 + nbytes n).toUInt8.toNat = 128 + nbytes n := toUInt8_toNat_of_lt _ (by omega)
    simp only [List.cons_append, readLen, hk, Nat.not_lt.mpr (Nat.le_add_right 128 _), if_false,
      Nat.add_sub_cancel_left, List.take_left' (beBytes_length _ _), List.drop_left' (beBytes_length _ _),
      beVal_beBytes _ _ hlt]
    -- left: the reader's checks on the long form, in turn: 1..4 length octets, all of them there (`nbytes_bounds`);
    -- the length not below 128 (`hn`); no leading zero (`nbytes_bounds`)
    rw [beq_false_of_ne (Nat.ne_of_gt h1), decide_eq_false (Nat.not_lt.mpr h4), List.length_append,
      beBytes_length, decide_eq_false (Nat.not_lt.mpr (Nat.le_add_right _ _)), Bool.or_self, Bool.or_self,
      if_neg Bool.false_ne_true, if_neg hn, beq_false_of_ne hne, if_neg Bool.false_ne_true]

/-- `ht`: cryptobyte reads single-byte tags only (tag number 31 announces the high-tag-number form) -/
theorem readAny_addASN1 (tag : UInt8) (body rest : Bytes)
    (ht : tag.toNat % 32 ≠ 31) (hb : body.length < 2^32) :
    readAny (addASN1 tag body ++ rest) = some (tag, body, rest) := by
  have hne : (encLen body.length ++ (body ++ rest)).isEmpty = false :=
    List.isEmpty_eq_false_iff.mpr (List.append_ne_nil_of_left_ne_nil (encLen_ne_nil _) _)
  simp [addASN1, readAny, ht, List.append_assoc, readLen_encLen _ hb, hne]

theorem readAny_addASN1_nil (tag : UInt8) (body : Bytes)
    (ht : tag.toNat % 32 ≠ 31) (hb : body.length < 2^32) :
    readAny (addASN1 tag body) = some (tag, body, []) := by
  simpa using readAny_addASN1 tag body [] ht hb

theorem read_addASN1 (t : UInt8) (body rest : Bytes)
    (ht : t.toNat % 32 ≠ 31) (hb : body.length < 2^32) :
    read t (addASN1 t body ++ rest) = some (body, rest) := by
  simp [read, readAny_addASN1 t body rest ht hb]

theorem read_addASN1_nil (t : UInt8) (body : Bytes)
    (ht : t.toNat % 32 ≠ 31) (hb : body.length < 2^32) :
    read t (addASN1 t body) = some (body, []) := by
  simpa using read_addASN1 t body [] ht hb

theorem read_addASN1_ne (t t' : UInt8) (body rest : Bytes) (hne : t' ≠ t)
    (ht : t'.toNat % 32 ≠ 31) (hb : body.length < 2^32) :
    read t (addASN1 t' body ++ rest) = none := by
  simp [read, readAny_addASN1 t' body rest ht hb, hne]

theorem readElement_addASN1 (t : UInt8) (body rest : Bytes)
    (ht : t.toNat % 32 ≠ 31) (hb : body.length < 2^32) :
    readElement t (addASN1 t body ++ rest) = some (addASN1 t body, rest) := by
  simp [readElement, read_addASN1 t body rest ht hb]

theorem readElement_addASN1_nil (t : UInt8) (body : Bytes)
    (ht : t.toNat % 32 ≠ 31) (hb : body.length < 2^32) :
    readElement t (addASN1 t body) = some (addASN1 t body, []) := by
  simpa using readElement_addASN1 t body [] ht hb

@[simp] theorem peek_addASN1 (t t' : UInt8) (body rest : Bytes) :
    peek t (addASN1 t' body ++ rest) = (t' == t) := by
  simp [peek, addASN1]

@[simp] theorem peek_nil (t : UInt8) : peek t [] = false := rfl

theorem readOptional_addASN1 (t : UInt8) (body rest : Bytes)
    (ht : t.toNat % 32 ≠ 31) (hb : body.length < 2^32) :
    readOptional t (addASN1 t body ++ rest) = some (some body, rest) := by
  simp [readOptional, read_addASN1 t body rest ht hb]

theorem readOptional_addASN1_nil (t : UInt8) (body : Bytes)
    (ht : t.toNat % 32 ≠ 31) (hb : body.length < 2^32) :
    readOptional t (addASN1 t body) = some (some body, []) := by
  simpa using readOptional_addASN1 t body [] ht hb

theorem readOptional_absent (t : UInt8) (s : Bytes) (h : peek t s = false) :
    readOptional t s = some (none, s) := by
  simp [readOptional, h]

theorem readOptional_nil (t : UInt8) : readOptional t [] = some (none, []) := rfl

theorem readOptional_addASN1_ne (t t' : UInt8) (body rest : Bytes) (hne : t' ≠ t) :
    readOptional t (addASN1 t' body ++ rest) = some (none, addASN1 t' body ++ rest) := by
  apply readOptional_absent; simp [hne]

/-! ### NULL and OCTET STRING -/

theorem read_addNULL (rest : Bytes) : read tNULL (addNULL ++ rest) = some ([], rest) :=
  read_addASN1 tNULL [] rest (by decide) (by decide)

theorem read_addNULL_nil : read tNULL addNULL = some ([], []) := by decide

theorem read_addOctets (b rest : Bytes) (hb : b.length < 2^32) :
    read tOCT (addOctets b ++ rest) = some (b, rest) :=
  read_addASN1 tOCT b rest (by decide) hb

theorem read_addOctets_nil (b : Bytes) (hb : b.length < 2^32) :
    read tOCT (addOctets b) = some (b, []) :=
  read_addASN1_nil tOCT b (by decide) hb

/-! ### numerals written most significant digit first -/

/-- A numeral written most significant digit first, on fuel, in front of `acc`: base `B`, the digit `r` written as
    the byte `d r` and read back by `v` (`natBytesAux`: base 256, the byte itself; `base128Aux`: base 128 with the
    continuation bit set). What is written has the value `n` under any `val` that reads one more digit as
    `· * B + v ·`, consists of digits, does not begin with the digit 0 and is no longer than `n` needs. -/
theorem numeralAux_spec {B : Nat} (hB : 2 ≤ B) {aux : Nat → Nat → Bytes → Bytes} {d : Nat → UInt8}
    {v : UInt8 → Nat} {val : Bytes → Nat}
    (aux_zero : ∀ n acc, aux 0 n acc = acc)
    (aux_succ : ∀ f n acc, aux (f + 1) n acc = if n = 0 then acc else aux f (n / B) (d (n % B) :: acc))
    (v_d : ∀ r, r < B → v (d r) = r) (val_nil : val [] = 0)
    (val_snoc : ∀ l b, val (l ++ [b]) = val l * B + v b) :
    ∀ f n acc, n ≤ f → ∃ l, aux f n acc = l ++ acc ∧ val l = n ∧ (∀ b ∈ l, ∃ r, r < B ∧ b = d r) ∧
      (∀ b tl, l = b :: tl → v b ≠ 0) ∧ ∀ k, n < B ^ k → l.length ≤ k := by
  intro f
  induction f with
  | zero =>
    intro n acc h
    obtain rfl : n = 0 := Nat.le_zero.mp h
    exact ⟨[], aux_zero 0 acc, val_nil, nofun, nofun, fun _ _ => Nat.zero_le _⟩
  | succ f ih =>
    intro n acc h
    by_cases hn : n = 0
    · subst hn
      exact ⟨[], by rw [aux_succ, if_pos rfl]; rfl, val_nil, nofun, nofun, fun _ _ => Nat.zero_le _⟩
    · have hB0 : 0 < B := Nat.lt_of_lt_of_le (by decide) hB
      have hr : n % B < B := Nat.mod_lt n hB0
      have hlt : n / B < n := Nat.div_lt_self (Nat.pos_of_ne_zero hn) hB
      obtain ⟨l, hl, hv, hd, hh, hlen⟩ := ih (n / B) (d (n % B) :: acc)
        (Nat.le_of_lt_succ (Nat.lt_of_lt_of_le hlt h))
      refine ⟨l ++ [d (n % B)], ?_, ?_, ?_, ?_, ?_⟩
      · rw [aux_succ, if_neg hn, hl, List.append_assoc]; rfl
      · rw [val_snoc, hv, v_d _ hr, Nat.div_add_mod']
      · intro b hb
        rcases List.mem_append.mp hb with hb | hb
        · exact hd b hb
        · exact ⟨n % B, hr, List.mem_singleton.mp hb⟩
      · intro b tl hbt
        cases l with
        | nil =>
          -- no digit in front: `n / B = val [] = 0`, so this digit is `n` itself, which is not 0
          obtain ⟨rfl, -⟩ := List.cons.inj hbt
          have h0 : n / B = 0 := hv.symm.trans val_nil
          rw [v_d _ hr, Nat.mod_eq_of_lt ((Nat.div_eq_zero_iff_lt hB0).mp h0)]
          exact hn
        | cons x xs => exact (List.cons.inj hbt).1 ▸ hh x xs rfl
      · intro k hk
        cases k with
        | zero => exact absurd (Nat.lt_one_iff.mp hk) hn
        | succ k =>
          rw [List.length_append, List.length_singleton]
          exact Nat.succ_le_succ (hlen k (Nat.div_lt_of_lt_mul (by rw [← Nat.pow_succ']; exact hk)))

/-! ### INTEGER -/

theorem natBytes_spec {n : Nat} (hn : n ≠ 0) :
    beVal (natBytes n) = n ∧ (∀ b tl, natBytes n = b :: tl → b ≠ 0) ∧
      ∀ k, n < 256 ^ k → (natBytes n).length ≤ k := by
  obtain ⟨l, hl, hv, -, hh, hk⟩ := numeralAux_spec (B := 256) (aux := natBytesAux) (d := Nat.toUInt8)
    (v := UInt8.toNat) (val := beVal) (by decide) (fun _ _ => rfl) (fun _ _ _ => rfl) toUInt8_toNat_of_lt rfl
    (fun l b => by rw [beVal_append]; simp [beVal]) (n + 1) n [] (Nat.le_succ n)
  rw [natBytes, if_neg hn, hl, List.append_nil]
  exact ⟨hv, fun b tl e h0 => hh b tl e (h0 ▸ rfl), hk⟩

theorem beVal_natBytes (n : Nat) : beVal (natBytes n) = n := by
  by_cases hn : n = 0
  · subst hn; rfl
  · exact (natBytes_spec hn).1

theorem natBytes_ne_nil (n : Nat) : natBytes n ≠ [] := by
  intro h
  have hv := beVal_natBytes n
  rw [h] at hv
  subst hv
  exact absurd h (by decide)

theorem natBytes_zero : natBytes 0 = [0] := rfl

theorem natBytes_length_le (n k : Nat) (hk : 0 < k) (h : n < 256^k) : (natBytes n).length ≤ k := by
  by_cases hn : n = 0
  · rw [hn, natBytes_zero]; exact hk
  · exact (natBytes_spec hn).2.2 k h

/-- content octets written by `addUInt` -/
def uintBody (n : Nat) : Bytes :=
  if ((natBytes n).headD 0).toNat ≥ 128 then 0 :: natBytes n else natBytes n

theorem addUInt_eq (n : Nat) : addUInt n = addASN1 tINT (uintBody n) := rfl

theorem uintBody_length_le (n : Nat) : (uintBody n).length ≤ (natBytes n).length + 1 := by
  unfold uintBody; split <;> simp

theorem uintBody_cases (n : Nat) : ∃ b0 tl, natBytes n = b0 :: tl ∧
    (128 ≤ b0.toNat ∧ uintBody n = 0 :: b0 :: tl ∨ ¬ 128 ≤ b0.toNat ∧ uintBody n = b0 :: tl) := by
  cases hb : natBytes n with
  | nil => exact absurd hb (natBytes_ne_nil n)
  | cons b0 tl =>
    refine ⟨b0, tl, rfl, ?_⟩
    unfold uintBody
    rw [hb]
    by_cases h : 128 ≤ b0.toNat
    · exact .inl ⟨h, if_pos h⟩
    · exact .inr ⟨h, if_neg h⟩

theorem checkInt_uintBody (n : Nat) : checkInt (uintBody n) = true := by
  obtain ⟨b0, tl, hb, ⟨h128, e⟩ | ⟨h128, e⟩⟩ := uintBody_cases n <;> rw [e]
  · -- the 0 in front is not redundant: the next byte has its top bit set
    rw [checkInt, decide_eq_false (Nat.not_lt.mpr h128)]
    rfl
  · cases tl with
    | nil => rfl
    | cons b1 tl' =>
      have hn : n ≠ 0 := by
        intro h0; subst h0; rw [natBytes_zero] at hb; simp at hb
      have hb0 := (natBytes_spec hn).2.1 b0 _ hb
      have hff : b0 ≠ 255 := by intro h; subst h; exact h128 (by decide)
      rw [checkInt, beq_false_of_ne hb0, beq_false_of_ne hff]
      rfl

theorem signedVal_cons_lt (b : UInt8) (tl : Bytes) (h : ¬ b.toNat ≥ 128) :
    signedVal (b :: tl) = (beVal (b :: tl) : Int) := by
  unfold signedVal; exact if_neg h

theorem signedVal_uintBody (n : Nat) : signedVal (uintBody n) = (n : Int) := by
  obtain ⟨b0, tl, hb, ⟨h128, e⟩ | ⟨h128, e⟩⟩ := uintBody_cases n <;> rw [e]
  · have e0 : beVal (0 :: b0 :: tl) = beVal (b0 :: tl) := by simp [beVal]
    rw [signedVal_cons_lt _ _ (by decide), e0, ← hb, beVal_natBytes]
  · rw [signedVal_cons_lt _ _ h128, ← hb, beVal_natBytes]

theorem readBigInt_addUInt_of_body (n : Nat) (rest : Bytes) (h : (uintBody n).length < 2^32) :
    readBigInt (addUInt n ++ rest) = some ((n : Int), rest) := by
  rw [addUInt_eq]
  simp [readBigInt, read_addASN1 tINT (uintBody n) rest (by decide) h,
    checkInt_uintBody, signedVal_uintBody]

theorem readBigInt_addUInt_of_body_nil (n : Nat) (h : (uintBody n).length < 2^32) :
    readBigInt (addUInt n) = some ((n : Int), []) := by
  simpa using readBigInt_addUInt_of_body n [] h

theorem readBigInt_addUInt_nil (n : Nat) (h : (natBytes n).length + 1 < 2^32) :
    readBigInt (addUInt n) = some ((n : Int), []) :=
  readBigInt_addUInt_of_body_nil n (Nat.lt_of_le_of_lt (uintBody_length_le n) h)

theorem uintBody_length_le_8 (n : Nat) (h : n < 2^63) : (uintBody n).length ≤ 8 := by
  obtain ⟨b0, tl, hb, ⟨h128, e⟩ | ⟨h128, e⟩⟩ := uintBody_cases n <;> rw [e]
  · -- with the top bit of the first byte set `n ≥ 128 * 256^tl.length`, and `n < 2^63 = 128 * 256^7`
    have hge : b0.toNat * 256^tl.length ≤ n := by
      rw [← beVal_natBytes n, hb]
      exact Nat.le_add_right _ _
    have h7 : tl.length < 7 := (Nat.pow_lt_pow_iff_right (a := 256) (by decide)).mp
      (Nat.lt_of_mul_lt_mul_left (a := 128)
        (Nat.lt_of_le_of_lt (Nat.le_trans (Nat.mul_le_mul_right _ h128) hge) h))
    exact Nat.succ_le_succ (Nat.succ_le_of_lt h7)
  · rw [← hb]
    exact natBytes_length_le n 8 (by decide) (Nat.lt_trans h (by decide))

theorem readInt64_addUInt (n : Nat) (rest : Bytes) (h : n < 2^63) :
    readInt64 (addUInt n ++ rest) = some ((n : Int), rest) := by
  have hl := uintBody_length_le_8 n h
  rw [addUInt_eq]
  have h8 : ¬ (uintBody n).length > 8 := Nat.not_lt.mpr hl
  simp [readInt64, read_addASN1 tINT (uintBody n) rest (by decide) (Nat.lt_of_le_of_lt hl (by decide)),
    checkInt_uintBody, signedVal_uintBody, h8]

theorem readInt64_addUInt_nil (n : Nat) (h : n < 2^63) :
    readInt64 (addUInt n) = some ((n : Int), []) := by
  simpa using readInt64_addUInt n [] h

/-! ### base-128 arcs -/

/-- value of a run of base-128 digits continuing from `ret` (what `readBase128Int` accumulates) -/
def val128 (ret : Nat) (l : Bytes) : Nat := l.foldl (fun r b => r * 128 + b.toNat % 128) ret

theorem val128_append_singleton (ret : Nat) (l : Bytes) (b : UInt8) :
    val128 ret (l ++ [b]) = val128 ret l * 128 + b.toNat % 128 := by
  simp [val128, List.foldl_append]

theorem le_val128 (l : Bytes) : ∀ ret, ret ≤ val128 ret l := by
  induction l with
  | nil => intro ret; exact Nat.le_refl _
  | cons b l ih =>
    intro ret
    exact Nat.le_trans (Nat.le_trans (Nat.le_mul_of_pos_right ret (by decide)) (Nat.le_add_right _ _))
      (ih (ret * 128 + b.toNat % 128))

/-- `l`: the continuation bytes. 0x80 in front would be a leading zero digit, which
    `readBase128Int` refuses as not minimal. -/
theorem base128_spec (n : Nat) :
    ∃ l, base128 n = l ++ [(n % 128).toUInt8] ∧ (∀ b ∈ l, 128 ≤ b.toNat) ∧ val128 0 l = n / 128 ∧
      (∀ b tl, l = b :: tl → b ≠ 0x80) ∧ (∀ k, n / 128 < 128^k → l.length ≤ k) := by
  have hd : ∀ r, r < 128 → (128 + r).toUInt8.toNat = 128 + r := fun r hr =>
    toUInt8_toNat_of_lt _ (Nat.add_lt_add_left hr 128)
  obtain ⟨l, hl, hv, hall, hh, hk⟩ := numeralAux_spec (B := 128) (aux := base128Aux)
    (d := fun r => (128 + r).toUInt8) (v := fun b => b.toNat % 128) (val := val128 0) (by decide)
    (fun _ _ => rfl) (fun _ _ _ => rfl) (fun r hr => by rw [hd r hr, Nat.add_mod_left, Nat.mod_eq_of_lt hr])
    rfl (val128_append_singleton 0)
    (n + 1) (n / 128) [(n % 128).toUInt8] (Nat.le_succ_of_le (Nat.div_le_self n 128))
  refine ⟨l, hl, fun b hb => ?_, hv, fun b tl e h0 => hh b tl e (h0 ▸ rfl), hk⟩
  obtain ⟨r, hr, rfl⟩ := hall b hb
  rw [hd r hr]
  exact Nat.le_add_right 128 r

/-- a turn of `readBase128Int` that passes its three checks: the digit is added; one without the continuation bit ends
    the number -/
theorem readBase128Aux_cons {i ret : Nat} {b : UInt8} (tl : Bytes) (h5 : i < 5) (hr : ret < 2^24)
    (hz : i = 0 → b ≠ 0x80) :
    readBase128Aux i ret (b :: tl) =
      if b.toNat < 128 then some (ret * 128 + b.toNat % 128, tl)
      else readBase128Aux (i + 1) (ret * 128 + b.toNat % 128) tl := by
  have hz' : (i == 0 && b == 0x80) = false := Bool.eq_false_iff.mpr fun h =>
    hz (eq_of_beq (Bool.and_eq_true_iff.mp h).1) (eq_of_beq (Bool.and_eq_true_iff.mp h).2)
  rw [readBase128Aux, beq_false_of_ne (Nat.ne_of_lt h5), hz', if_neg Bool.false_ne_true,
    if_neg (Nat.not_le.mpr hr), if_neg Bool.false_ne_true]

theorem readBase128Aux_run (last : UInt8) (rest : Bytes) (hlast : last.toNat < 128) :
    ∀ (l : Bytes) (i ret : Nat), (∀ b ∈ l, 128 ≤ b.toNat) → i + l.length ≤ 4 →
      val128 ret l < 2^24 → (i = 0 → ∀ b tl, l = b :: tl → b ≠ 0x80) →
      readBase128Aux i ret (l ++ last :: rest) = some (val128 ret l * 128 + last.toNat, rest) := by
  intro l
  induction l with
  | nil =>
    intro i ret _ hi hv _
    -- the last digit: it lacks the continuation bit, so it is not 0x80
    have hne : last ≠ 0x80 := fun h => absurd (h ▸ hlast) (by decide)
    rw [List.nil_append, readBase128Aux_cons (i := i) (ret := ret) rest (Nat.lt_succ_of_le hi) hv (fun _ => hne),
      if_pos hlast, Nat.mod_eq_of_lt hlast]
    rfl
  | cons b l ih =>
    intro i ret hall hi hv hhead
    obtain ⟨hb, hall'⟩ := List.forall_mem_cons.mp hall
    rw [List.length_cons] at hi
    -- a continuation digit: the accumulator only grows (`le_val128`), so it is below 2^24 here as well
    rw [List.cons_append,
      readBase128Aux_cons _ (Nat.lt_succ_of_le (Nat.le_trans (Nat.le_add_right i _) hi))
        (Nat.lt_of_le_of_lt (le_val128 (b :: l) ret) hv) (fun h0 => hhead h0 b l rfl),
      if_neg (Nat.not_lt.mpr hb),
      ih (i + 1) _ hall' (by rw [Nat.add_right_comm]; exact hi) hv (fun h => absurd h (Nat.succ_ne_zero i))]
    rfl

theorem base128_ne_nil (n : Nat) : base128 n ≠ [] := by
  obtain ⟨l, hl, _⟩ := base128_spec n
  rw [hl]
  simp

/-- an arc below 2^31 (the reader's limit) has at most four continuation digits: `n / 128 < 2^24 ≤ 128^4` -/
theorem div_128_lt {n : Nat} (h : n < 2^31) : n / 128 < 128^4 :=
  Nat.div_lt_of_lt_mul (Nat.lt_trans h (by decide))

theorem base128_length_le (n : Nat) (h : n < 2^31) : (base128 n).length ≤ 5 := by
  obtain ⟨l, hl, _, _, _, hlen⟩ := base128_spec n
  have h4 := hlen 4 (div_128_lt h)
  rw [hl, List.length_append, List.length_singleton]
  exact Nat.succ_le_succ h4

theorem readBase128_base128 (n : Nat) (rest : Bytes) (h : n < 2^31) :
    readBase128 (base128 n ++ rest) = some (n, rest) := by
  unfold readBase128
  obtain ⟨l, hl, hall, hv, hh, hlen⟩ := base128_spec n
  have hlast : n % 128 < 128 := Nat.mod_lt n (by decide)
  have hx : (n % 128).toUInt8.toNat = n % 128 := toUInt8_toNat_of_lt _ (Nat.lt_trans hlast (by decide))
  have hq : n / 128 < 2^24 := Nat.div_lt_of_lt_mul h
  have h4 : l.length ≤ 4 := hlen 4 (div_128_lt h)
  rw [hl, List.append_assoc, List.singleton_append,
    readBase128Aux_run _ rest (by rw [hx]; exact hlast) l 0 0 hall (by rw [Nat.zero_add]; exact h4)
      (by rw [hv]; exact hq) (fun _ => hh),
    hv, hx, Nat.div_add_mod']

theorem readBase128_base128_nil (n : Nat) (h : n < 2^31) :
    readBase128 (base128 n) = some (n, []) := by
  simpa using readBase128_base128 n [] h

/-! ### OBJECT IDENTIFIER -/

theorem oidRest_flatten : ∀ (arcs : List Nat) (fuel : Nat) (acc : List Nat),
    (∀ x ∈ arcs, x < 2^31) → (arcs.map base128).flatten.length ≤ fuel →
    oidRest fuel (arcs.map base128).flatten acc = some (acc.reverse ++ arcs) := by
  intro arcs
  induction arcs with
  | nil => intro fuel acc _ _; cases fuel <;> simp [oidRest]
  | cons x xs ih =>
    intro fuel acc hall hlen
    have hx : x < 2^31 := hall x List.mem_cons_self
    have hne := base128_ne_nil x
    have hpos : 1 ≤ (base128 x).length := List.length_pos_iff.mpr hne
    simp only [List.map_cons, List.flatten_cons, List.length_append] at hlen ⊢
    cases fuel with
    | zero => exact absurd (Nat.le_trans (Nat.le_add_right _ _) hlen) (Nat.not_le.mpr hpos)
    | succ f =>
      have hemp : (base128 x ++ (xs.map base128).flatten).isEmpty = false :=
        List.isEmpty_eq_false_iff.mpr (List.append_ne_nil_of_left_ne_nil hne _)
      simp only [oidRest, hemp, readBase128_base128 x _ hx]
      rw [ih f (x :: acc) (fun y hy => hall y (List.mem_cons_of_mem _ hy))
        (Nat.le_of_lt_succ (Nat.lt_of_lt_of_le (Nat.lt_add_of_pos_left hpos) hlen))]
      simp

/-- decidable side condition of the OID round trip: valid first two arcs, `40·a+b` and every
    further arc below 2^31 (the reader's limit) -/
def oidArcsOk : List Nat → Bool
  | a :: b :: r => validOID (a :: b :: r) && decide (40 * a + b < 2^31) && r.all (fun x => decide (x < 2^31))
  | _ => false

theorem addOID_eq (a b : Nat) (r : List Nat) (hv : validOID (a :: b :: r) = true) :
    addOID (a :: b :: r) = some (addASN1 tOID (base128 (40 * a + b) ++ (r.map base128).flatten)) := by
  simp [addOID, hv]

theorem addOID_of_valid {o : List Nat} (h : validOID o = true) :
    ∃ body, addOID o = some (addASN1 tOID body) := by
  match o, h with
  | a :: b :: r, h => exact ⟨_, addOID_eq a b r h⟩

/-- what `readOID` makes of the first subidentifier `40a + b` is `a, b` again: `b < 40` unless `a = 2` -/
theorem firstArcs_eq {a b : Nat} (ha : a ≤ 2) (hb : a ≤ 1 → b < 40) :
    (if 40 * a + b < 80 then [(40 * a + b) / 40, (40 * a + b) % 40] else [2, 40 * a + b - 80]) = [a, b] := by
  by_cases h1 : a ≤ 1
  · have hb := hb h1
    rw [if_pos (Nat.add_lt_add_of_le_of_lt (Nat.mul_le_mul_left 40 h1) hb), Nat.mul_add_div (by decide),
      Nat.mul_add_mod, Nat.div_eq_of_lt hb, Nat.mod_eq_of_lt hb]
    rfl
  · obtain rfl : a = 2 := Nat.le_antisymm ha (Nat.lt_of_not_le h1)
    rw [if_neg (Nat.not_lt.mpr (Nat.le_add_right 80 b)), Nat.add_sub_cancel_left]

/-- `(addOID o).getD []` is what `BytesOrPanic` yields for a valid OID -/
theorem readOID_addOID_getD (o : List Nat) (rest : Bytes) (hok : oidArcsOk o = true)
    (hlen : ((addOID o).getD []).length < 2^32) :
    readOID ((addOID o).getD [] ++ rest) = some (o, rest) := by
  match o, hok with
  | a :: b :: r, hok =>
    simp only [oidArcsOk, Bool.and_eq_true, decide_eq_true_eq, List.all_eq_true] at hok
    obtain ⟨⟨hv, hab⟩, hr⟩ := hok
    rw [addOID_eq a b r hv, Option.getD_some] at hlen ⊢
    have hne : (base128 (40 * a + b) ++ (r.map base128).flatten).isEmpty = false :=
      List.isEmpty_eq_false_iff.mpr (List.append_ne_nil_of_left_ne_nil (base128_ne_nil _) _)
    simp only [readOID, read_addASN1 tOID _ rest (by decide) (Fits.body hlen), hne,
      readBase128_base128 _ _ hab, oidRest_flatten r _ [] hr (Nat.le_refl _)]
    simp only [validOID, Bool.and_eq_true, decide_eq_true_eq] at hv
    rw [firstArcs_eq hv.1 hv.2]
    rfl

/-! ### UTCTime -/

theorem zoneOk_length {z : Bytes} (h : zoneOk z = true) : z.length ≤ 5 := by
  unfold zoneOk at h
  split at h
  · simp
  · simp
  · cases h

/-- twelve digits and a zone of at most five bytes -/
theorem parseUTC_length {t c : Bytes} (h : parseUTC t = some c) : t.length ≤ 17 := by
  -- every accepting branch has checked `zoneOk` of what follows 10 or 12 digits
  have zone : ∀ {b : Bool} {z r : Bytes}, (if b && zoneOk z then some r else none) = some c → z.length ≤ 5 := by
    intro b z r h
    split at h
    · next hc => exact zoneOk_length (Bool.and_eq_true_iff.mp hc).2
    · cases h
  unfold parseUTC at h
  split at h
  · split at h
    · split at h
      · split at h
        · exact Nat.add_le_add_right (zone h) 12
        · exact Nat.le_trans (Nat.add_le_add_right (zone h) 10) (by decide)
      · exact Nat.le_trans (Nat.add_le_add_right (zone h) 10) (by decide)
    · cases h
  · cases h

end GoUefi.Der

import GoUefi.Gen
import GoUefi.Model.Pkcs7
/-!
  The translated `pkcs7` functions of `GoUefi/Gen.lean`: `signerinfo.isCertificate` and the loops of
  `PKCS7.Verify` and `PKCS7.HasCertificate`.
  `PKCS7.Verify` is `List.findSome?` of the entries' verdicts, as `PECOFFBinary.Verify` is of its table entries'
  (`C03.entryVerdict`, `Properties/C03g.lean`).
-/
namespace GoUefi.GenPkcs7
open GoUefi GoUefi.Gen

theorem isCertificate_iff (s : pkcs7.signerinfo) (c : X509Cert) :
    s.isCertificate c = true ↔
      c.RawIssuer = s.IssuerAndSerialnumber.RawIssuer ∧ c.SerialNumber = s.IssuerAndSerialnumber.SerialNumber := by
  unfold pkcs7.signerinfo.isCertificate
  by_cases h1 : c.RawIssuer = s.IssuerAndSerialnumber.RawIssuer
  · by_cases h2 : c.SerialNumber = s.IssuerAndSerialnumber.SerialNumber
    · simp [h1, h2]
    · simp [h1, h2]
  · simp [h1]

/-! ### the `Verify` loop: the first signer entry with a verdict decides -/

/-- what one signer entry says: `none` lets the loop go on — the entry does not name the certificate, or the external
    check answers `(false, nil)` —, `some r` ends it with `r`: an error of the check, wrapped
    (`fmt.Errorf("…: %w", err)`), or success -/
def verdict (X : pkcs7.Ext) (p : pkcs7.PKCS7) (c : X509Cert) (s : pkcs7.signerinfo) : Option (Bool × GoErr) :=
  if s.isCertificate c then
    if (X.signerinfo_verify s c p.ContentInfo).2.isSome then
      some (false, goWrap (X.signerinfo_verify s c p.ContentInfo).2)
    else if (X.signerinfo_verify s c p.ContentInfo).1 then some (true, none)
    else none
  else none

theorem loop_eq (X : pkcs7.Ext) (p : pkcs7.PKCS7) (c : X509Cert) (l : List pkcs7.signerinfo) :
    pkcs7.PKCS7.Verify.loop1 X p c l =
      match l.findSome? (verdict X p c) with
      | some r => Loop.ret r
      | none => Loop.done () := by
  induction l with
  | nil => rfl
  | cons s r ih =>
    rw [pkcs7.PKCS7.Verify.loop1, List.findSome?_cons, ih, verdict]
    cases s.isCertificate c
    · rfl
    · rcases X.signerinfo_verify s c p.ContentInfo with ⟨_ | _, _ | e⟩ <;> rfl

theorem verify_eq (X : pkcs7.Ext) (p : pkcs7.PKCS7) (c : X509Cert) :
    p.Verify X c = (p.SignerInfo.findSome? (verdict X p c)).getD (false, none) := by
  rw [pkcs7.PKCS7.Verify, loop_eq]
  cases p.SignerInfo.findSome? (verdict X p c) <;> rfl

theorem verdict_shape {X : pkcs7.Ext} {p : pkcs7.PKCS7} {c : X509Cert} {s : pkcs7.signerinfo} {r : Bool × GoErr}
    (h : verdict X p c s = some r) : r = (true, none) ∨ ∃ e, r = (false, some e) := by
  revert h
  unfold verdict
  cases s.isCertificate c
  · exact nofun
  · rcases X.signerinfo_verify s c p.ContentInfo with ⟨_ | _, _ | e⟩ <;> intro h <;> cases h
    · exact .inr ⟨_, rfl⟩
    · exact .inl rfl
    · exact .inr ⟨_, rfl⟩

theorem verdict_true_iff (X : pkcs7.Ext) (p : pkcs7.PKCS7) (c : X509Cert) (s : pkcs7.signerinfo) :
    verdict X p c s = some (true, none) ↔
      s.isCertificate c = true ∧ X.signerinfo_verify s c p.ContentInfo = (true, none) := by
  unfold verdict
  cases s.isCertificate c
  · simp
  · rcases X.signerinfo_verify s c p.ContentInfo with ⟨_ | _, _ | e⟩ <;> simp

theorem verdict_none_iff (X : pkcs7.Ext) (p : pkcs7.PKCS7) (c : X509Cert) (s : pkcs7.signerinfo) :
    verdict X p c s = none ↔
      (s.isCertificate c = true → X.signerinfo_verify s c p.ContentInfo = (false, none)) := by
  unfold verdict
  cases s.isCertificate c
  · simp
  · rcases X.signerinfo_verify s c p.ContentInfo with ⟨_ | _, _ | e⟩ <;> simp

theorem verdict_congr {X X' : pkcs7.Ext} {p : pkcs7.PKCS7} {c : X509Cert} {s : pkcs7.signerinfo}
    (h : s.isCertificate c = true →
      X.signerinfo_verify s c p.ContentInfo = X'.signerinfo_verify s c p.ContentInfo) :
    verdict X p c s = verdict X' p c s := by
  unfold verdict
  cases hc : s.isCertificate c
  · rfl
  · rw [h hc]

theorem findSome?_congr {α β : Type} {f g : α → Option β} {l : List α} (h : ∀ a ∈ l, f a = g a) :
    l.findSome? f = l.findSome? g := by
  induction l with
  | nil => rfl
  | cons a r ih =>
    rw [List.findSome?_cons, List.findSome?_cons, h a (List.mem_cons_self ..),
      ih fun x hx => h x (List.mem_cons_of_mem _ hx)]

/-! ### `HasCertificate` -/

theorem hasCertificate_eq (p : pkcs7.PKCS7) (c : X509Cert) :
    p.HasCertificate c = p.SignerInfo.any (·.isCertificate c) := by
  unfold pkcs7.PKCS7.HasCertificate
  induction p.SignerInfo with
  | nil => rfl
  | cons a r ih =>
    rw [pkcs7.PKCS7.HasCertificate.loop1, List.any_cons]
    cases a.isCertificate c
    · exact ih
    · rfl

end GoUefi.GenPkcs7

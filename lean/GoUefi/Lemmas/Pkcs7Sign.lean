import GoUefi.Model.Pkcs7
import GoUefi.Spec.Cms
import GoUefi.Lemmas.SortEnc
import GoUefi.Lemmas.Pkcs7Verify
/-!
  Layer-by-layer lemmas for C05: what `SignPKCS7` writes is read back by `ParsePKCS7`
  (`GoUefi/Model/Pkcs7.lean`), verifies, and is accepted by `Spec.cmsVerify`. The library's parser
  is walked over the builder's output field by field; what the specification's parser reads
  follows from that through `parseSignedData_of_parseP7` (`GoUefi/Lemmas/Pkcs7Verify.lean`).
  The signed attributes come in DER SET OF order, which depends on the inputs: both attribute loops
  (the library's and the specification's `findMD`) are run over them by `loop_sortEnc3`, the case
  of three elements of `loop_flatten_perm`: commuting effects over a rearranged concatenation.
-/
namespace GoUefi.Impl
open GoUefi GoUefi.Der

/-! ### OIDs -/

theorem oidOr_eq {o : List Nat} (h : validOID o = true) : ∃ body, oidOr o = addASN1 tOID body := by
  obtain ⟨body, hb⟩ := addOID_of_valid h
  exact ⟨body, by simp [oidOr, hb]⟩

theorem readOID_oidOr (o : List Nat) (rest : Bytes) (hok : oidArcsOk o = true)
    (hlen : Fits (oidOr o)) : readOID (oidOr o ++ rest) = some (o, rest) :=
  readOID_addOID_getD o rest hok hlen

theorem readOID_oidOr_nil (o : List Nat) (hok : oidArcsOk o = true)
    (hlen : Fits (oidOr o)) : readOID (oidOr o) = some (o, []) := by
  simpa using readOID_oidOr o [] hok hlen

theorem peek_oidOr (t : UInt8) (o : List Nat) (rest : Bytes) (h : validOID o = true) :
    peek t (oidOr o ++ rest) = (tOID == t) := by
  obtain ⟨body, hb⟩ := oidOr_eq h
  rw [hb, peek_addASN1]

theorem oidOr_append_isEmpty (o : List Nat) (rest : Bytes) (h : validOID o = true) :
    (oidOr o ++ rest).isEmpty = false := by
  obtain ⟨body, hb⟩ := oidOr_eq h
  rw [hb, addASN1_append_isEmpty]

/-! ### AlgorithmIdentifier -/

theorem parseAlg_null (o : List Nat) (rest : Bytes) (hok : oidArcsOk o = true)
    (hlen : Fits (addASN1 tSEQ (oidOr o ++ addNULL))) :
    parseAlg (addASN1 tSEQ (oidOr o ++ addNULL) ++ rest) = some (o, rest) := by
  simp only [parseAlg, read_addASN1 tSEQ _ rest (by decide) hlen.body,
    readOID_oidOr o _ hok hlen.body.left, read_addNULL_nil]
  rfl

theorem parseAlg_null_nil (o : List Nat) (hok : oidArcsOk o = true)
    (hlen : (addASN1 tSEQ (oidOr o ++ addNULL)).length < 2^32) :
    parseAlg (addASN1 tSEQ (oidOr o ++ addNULL)) = some (o, []) := by
  simpa using parseAlg_null o [] hok hlen

theorem parseAlg_algSha256 (rest : Bytes) : parseAlg (algSha256 ++ rest) = some (oidSha256, rest) :=
  parseAlg_null oidSha256 rest (by decide) (by decide)

theorem parseAlg_algSha256_nil : parseAlg algSha256 = some (oidSha256, []) :=
  parseAlg_null_nil oidSha256 (by decide) (by decide)

theorem parseAlg_rsa (rest : Bytes) :
    parseAlg (addASN1 tSEQ (oidOr oidRsa ++ addNULL) ++ rest) = some (oidRsa, rest) :=
  parseAlg_null oidRsa rest (by decide) (by decide)

/-! ### signed attributes -/

theorem attrSeq_append_isEmpty (ty : List Nat) (v rest : Bytes) :
    (attrSeq ty v ++ rest).isEmpty = false := addASN1_append_isEmpty _ _ _

/-- the three reads with which every turn of an attribute loop starts, on an attribute as the
    builder writes it -/
theorem attrSeq_reads (ty : List Nat) (v rest : Bytes) (hty : oidArcsOk ty = true)
    (hlen : Fits (attrSeq ty v)) :
    read tSEQ (attrSeq ty v ++ rest) = some (oidOr ty ++ addASN1 tSET v, rest) ∧
    readOID (oidOr ty ++ addASN1 tSET v) = some (ty, addASN1 tSET v) ∧
    read tSET (addASN1 tSET v) = some (v, []) :=
  ⟨read_addASN1 tSEQ _ rest (by decide) hlen.body, readOID_oidOr ty _ hty hlen.body.left,
    read_addASN1_nil tSET v (by decide) hlen.body.right.body⟩

theorem parseAttr_contentType (o : List Nat) (rest : Bytes) (a : Attrs) (hok : oidArcsOk o = true)
    (hlen : Fits (attrSeq oidContentType (oidOr o))) :
    parseAttr (attrSeq oidContentType (oidOr o) ++ rest) a =
      some ({ a with contentType := some o }, rest) := by
  obtain ⟨h1, h2, h3⟩ := attrSeq_reads oidContentType (oidOr o) rest (by decide) hlen
  simp only [parseAttr, h1, h2, h3,
    show (oidContentType == oidMessageDigest) = false from by decide,
    show (oidContentType == oidContentType) = true from by decide,
    readOID_oidOr_nil o hok hlen.body.right.body]
  rfl

theorem parseAttr_signingTime (t : Bytes) (rest : Bytes) (a : Attrs) (ht : parseUTC t = some t)
    (hlen : Fits (attrSeq oidSigningTime (addASN1 tUTC t))) :
    parseAttr (attrSeq oidSigningTime (addASN1 tUTC t) ++ rest) a =
      some ({ a with time := some t }, rest) := by
  obtain ⟨h1, h2, h3⟩ := attrSeq_reads oidSigningTime (addASN1 tUTC t) rest (by decide) hlen
  simp only [parseAttr, h1, h2, h3,
    show (oidSigningTime == oidMessageDigest) = false from by decide,
    show (oidSigningTime == oidContentType) = false from by decide,
    show (oidSigningTime == oidSigningTime) = true from by decide,
    read_addASN1_nil tUTC _ (by decide) hlen.body.right.body.body, ht]
  rfl

theorem parseAttr_messageDigest (d : Bytes) (rest : Bytes) (a : Attrs)
    (hlen : Fits (attrSeq oidMessageDigest (addOctets d))) :
    parseAttr (attrSeq oidMessageDigest (addOctets d) ++ rest) a =
      some ({ a with md := d }, rest) := by
  obtain ⟨h1, h2, h3⟩ := attrSeq_reads oidMessageDigest (addOctets d) rest (by decide) hlen
  simp only [parseAttr, h1, h2, h3,
    show (oidMessageDigest == oidMessageDigest) = true from by decide,
    read_addOctets_nil d hlen.body.right.body.body]
  rfl

theorem attrLoop_nil (f : Nat) (a : Attrs) : attrLoop f [] a = some a := by
  cases f <;> rfl

/-- A fuel loop `L` that consumes one element per turn (`hl`) and stops at the empty input (`h0`)
    folds the elements' effects `u` over a concatenation of elements. When the effects commute the
    order of the elements does not matter: they may come as any rearrangement `l'` (the DER SET OF
    sort) of a list `l` whose fold is known. -/
theorem loop_flatten_perm {σ : Type} {L : Nat → Bytes → σ → Option σ} {u : Bytes → σ → σ}
    {l l' : List Bytes} (hp : l'.Perm l) (h0 : ∀ f a, L f [] a = some a)
    (hl : ∀ e ∈ l, ∀ f r a, L (f + 1) (e ++ r) a = L f r (u e a))
    (comm : ∀ x ∈ l, ∀ y ∈ l, ∀ a, u y (u x a) = u x (u y a))
    {f : Nat} (hf : l.length ≤ f) (a : σ) :
    L f l'.flatten a = some (l.foldl (fun a e => u e a) a) := by
  rw [← hp.foldl_eq' (fun x hx y hy a => comm x (hp.mem_iff.mp hx) y (hp.mem_iff.mp hy) a)]
  rw [← hp.length_eq] at hf
  replace hl := fun e he => hl e (hp.mem_iff.mp he)
  clear hp comm
  induction l' generalizing f a with
  | nil => exact h0 f a
  | cons e es ih =>
    cases f with
    | zero => simp at hf
    | succ f =>
      rw [List.flatten_cons, hl e (List.mem_cons_self ..), List.foldl_cons]
      exact ih (Nat.le_of_succ_le_succ hf) _ fun x hx => hl x (List.mem_cons_of_mem _ hx)

/-- What the element `e`, read alone, does to the state of such a loop. It is defined for every
    byte string, so it can be the `u` of `loop_flatten_perm`; on an element that a turn of the loop
    takes off the front with update `g` it is `g` (`loopEffect_eq`). -/
def loopEffect {σ : Type} (L : Nat → Bytes → σ → Option σ) (e : Bytes) (a : σ) : σ := (L 1 e a).getD a

theorem loopEffect_eq {σ : Type} {L : Nat → Bytes → σ → Option σ} {e : Bytes} {g : σ → σ}
    (h0 : ∀ f a, L f [] a = some a) (h : ∀ f r a, L (f + 1) (e ++ r) a = L f r (g a)) :
    loopEffect L e = g := by
  funext a
  have := h 0 [] a
  rw [List.append_nil, h0] at this
  rw [loopEffect, this]
  rfl

/-- The case the builder produces: three elements in DER SET OF order, whose updates `g1 g2 g3`
    commute. -/
theorem loop_sortEnc3 {σ : Type} {L : Nat → Bytes → σ → Option σ} {e1 e2 e3 : Bytes}
    {g1 g2 g3 : σ → σ} (h0 : ∀ f a, L f [] a = some a)
    (s1 : ∀ f r a, L (f + 1) (e1 ++ r) a = L f r (g1 a))
    (s2 : ∀ f r a, L (f + 1) (e2 ++ r) a = L f r (g2 a))
    (s3 : ∀ f r a, L (f + 1) (e3 ++ r) a = L f r (g3 a))
    (c12 : ∀ a, g2 (g1 a) = g1 (g2 a)) (c13 : ∀ a, g3 (g1 a) = g1 (g3 a))
    (c23 : ∀ a, g3 (g2 a) = g2 (g3 a)) {f : Nat} (hf : 3 ≤ f) (a : σ) :
    L f (sortEnc [e1, e2, e3]).flatten a = some (g3 (g2 (g1 a))) := by
  have u1 := loopEffect_eq h0 s1
  have u2 := loopEffect_eq h0 s2
  have u3 := loopEffect_eq h0 s3
  rw [loop_flatten_perm (sortEnc_perm _) h0 (u := loopEffect L) ?_ ?_ hf]
  · simp only [List.foldl_cons, List.foldl_nil, u1, u2, u3]
  · simp only [List.mem_cons, List.mem_nil_iff, or_false]
    rintro e (rfl | rfl | rfl)
    · rw [u1]; exact s1
    · rw [u2]; exact s2
    · rw [u3]; exact s3
  · simp only [List.mem_cons, List.mem_nil_iff, or_false]
    rintro x (rfl | rfl | rfl) y (rfl | rfl | rfl) a <;> simp only [u1, u2, u3, c12, c13, c23]

theorem attrLoop_elem {e : Bytes} {g : Attrs → Attrs} (hn : ∀ r, (e ++ r).isEmpty = false)
    (h : ∀ r a, parseAttr (e ++ r) a = some (g a, r)) (f : Nat) (r : Bytes) (a : Attrs) :
    attrLoop (f + 1) (e ++ r) a = attrLoop f r (g a) := by
  simp only [attrLoop, hn, h]
  rfl

/-- the three attributes `SignPKCS7` signs, in the order `Attributes.Marshal` writes them: the
    DER SET OF order, i.e. sorted by their encodings (F19) -/
def signedAttrsBody (oid : List Nat) (time md : Bytes) : Bytes :=
  (sortEnc [attrSeq oidContentType (oidOr oid), attrSeq oidSigningTime (addASN1 tUTC time),
    attrSeq oidMessageDigest (addOctets md)]).flatten

theorem signedAttrsBody_length (oid : List Nat) (time md : Bytes) :
    (signedAttrsBody oid time md).length =
      (attrSeq oidContentType (oidOr oid)).length +
      (attrSeq oidSigningTime (addASN1 tUTC time)).length +
      (attrSeq oidMessageDigest (addOctets md)).length := by
  rw [signedAttrsBody, (sortEnc_perm _).flatten.length_eq]
  simp only [List.flatten_cons, List.flatten_nil, List.length_append, List.length_nil]
  omega

theorem signedAttrsBody_length_ge (oid : List Nat) (time md : Bytes) :
    3 ≤ (signedAttrsBody oid time md).length := by
  rw [signedAttrsBody_length]
  -- an element has at least two bytes
  have two : ∀ ty v, 2 ≤ (attrSeq ty v).length := fun ty v =>
    Nat.le_trans (Nat.le_add_left 2 _) (addASN1_length_ge tSEQ (oidOr ty ++ addASN1 tSET v))
  exact Nat.le_trans (Nat.le_succ 3) (Nat.le_trans (Nat.add_le_add (two _ _) (two _ _)) (Nat.le_add_right _ _))

theorem signedAttrsBody_fits {oid : List Nat} {time md : Bytes}
    (h : Fits (signedAttrsBody oid time md)) :
    Fits (attrSeq oidContentType (oidOr oid)) ∧ Fits (attrSeq oidSigningTime (addASN1 tUTC time)) ∧
      Fits (attrSeq oidMessageDigest (addOctets md)) := by
  unfold Fits at *
  rw [signedAttrsBody_length] at h
  exact ⟨Nat.lt_of_le_of_lt (Nat.le_trans (Nat.le_add_right _ _) (Nat.le_add_right _ _)) h,
    Nat.lt_of_le_of_lt (Nat.le_trans (Nat.le_add_left _ _) (Nat.le_add_right _ _)) h,
    Nat.lt_of_le_of_lt (Nat.le_add_left _ _) h⟩

/-- The variable `ab` stands on the right: `subst` normalises the right-hand side before it looks
    for a variable, and normalising `signedAttrsBody …` means sorting symbolic encodings. -/
theorem attrsBody_signed_iff {oid : List Nat} {time md ab : Bytes} :
    attrsBody { contentType := some oid, md := md, time := some time } = some ab ↔
      validOID oid = true ∧ signedAttrsBody oid time md = ab := by
  by_cases hv : validOID oid = true <;> simp [attrsBody, hv, signedAttrsBody]

theorem attrLoop_signed (oid : List Nat) (time md : Bytes) (a : Attrs) (f : Nat) (hf : 3 ≤ f)
    (hok : oidArcsOk oid = true) (ht : parseUTC time = some time)
    (hlen : Fits (signedAttrsBody oid time md)) :
    attrLoop f (signedAttrsBody oid time md) a =
      some { a with contentType := some oid, time := some time, md := md } := by
  obtain ⟨h1, h2, h3⟩ := signedAttrsBody_fits hlen
  -- the three updates set different fields
  exact loop_sortEnc3 attrLoop_nil
    (attrLoop_elem (attrSeq_append_isEmpty _ _) fun r a => parseAttr_contentType oid r a hok h1)
    (attrLoop_elem (attrSeq_append_isEmpty _ _) fun r a => parseAttr_signingTime time r a ht h2)
    (attrLoop_elem (attrSeq_append_isEmpty _ _) fun r a => parseAttr_messageDigest md r a h3)
    (fun _ => rfl) (fun _ => rfl) (fun _ => rfl) hf a

theorem parseAttrs_signed (oid : List Nat) (time md rest : Bytes)
    (hok : oidArcsOk oid = true) (ht : parseUTC time = some time)
    (hlen : Fits (signedAttrsBody oid time md)) :
    parseAttrs (addASN1 tCtx0 (signedAttrsBody oid time md) ++ rest) =
      some (some { contentType := some oid, md := md, time := some time, other := [],
                   raw := some (addASN1 tSET (signedAttrsBody oid time md)) }, rest) := by
  have h3 : 3 ≤ (signedAttrsBody oid time md).length := signedAttrsBody_length_ge oid time md
  simp only [parseAttrs, readOptional_addASN1 tCtx0 _ rest (by decide) hlen,
    attrLoop_signed oid time md _ _ h3 hok ht hlen]

/-! ### SignerInfo -/

/-- body of the SignerInfo SEQUENCE written by `SignPKCS7` -/
def signerBody (issuerRaw : Bytes) (serial : Nat) (ab sig : Bytes) : Bytes :=
  addUInt 1 ++ addASN1 tSEQ (issuerRaw ++ addUInt serial) ++ algSha256 ++ addASN1 tCtx0 ab ++
    addASN1 tSEQ (oidOr oidRsa ++ addNULL) ++ addOctets sig

theorem parseSigner_signer (ibody : Bytes) (serial : Nat) (ab sig rest : Bytes) (A : Option Attrs)
    (hA : ∀ r, parseAttrs (addASN1 tCtx0 ab ++ r) = some (A, r))
    (hlen : Fits (signerBody (addASN1 tSEQ ibody) serial ab sig)) :
    parseSigner (addASN1 tSEQ (signerBody (addASN1 tSEQ ibody) serial ab sig) ++ rest) =
      some ((⟨1, addASN1 tSEQ ibody, serial, A, sig⟩ : Signer), rest) := by
  simp only [signerBody, List.append_assoc] at hlen ⊢
  have hias := hlen.right.left.body
  exact parseSigner_eq_some.mpr ⟨_, _, _, _, _, _, _, _, _, _, _, _,
    read_addASN1 tSEQ _ rest (by decide) hlen, readInt64_addUInt 1 _ (by decide),
    read_addASN1 tSEQ _ _ (by decide) hias, readElement_addASN1 tSEQ ibody _ (by decide) hias.left.body,
    readBigInt_addUInt_of_body_nil serial hias.right.body, parseAlg_algSha256 _, hA _, parseAlg_rsa _,
    read_addOctets_nil sig hlen.right.right.right.right.right.body⟩

theorem signerLoop_one {s : Bytes} {x : Signer} (hs : s.isEmpty = false)
    (h : parseSigner s = some (x, [])) : signerLoop s.length s = some [x] := by
  cases s with
  | nil => cases hs
  | cons b bs =>
    simp only [List.length_cons, signerLoop, hs, h]
    cases bs.length <;> rfl

/-! ### ContentInfo -/

theorem parseContentInfo_absent (oid : List Nat) (rest : Bytes) (hok : oidArcsOk oid = true)
    (hlen : Fits (oidOr oid)) :
    parseContentInfo (addASN1 tSEQ (oidOr oid) ++ rest) = some (oid, [], rest) := by
  simp only [parseContentInfo, read_addASN1 tSEQ _ rest (by decide) hlen,
    readOID_oidOr_nil oid hok hlen, readOptional_nil]
  rfl

theorem parseContentInfo_present (oid : List Nat) (c rest : Bytes) (hok : oidArcsOk oid = true)
    (hlen : Fits (oidOr oid ++ addASN1 tCtx0 c)) :
    parseContentInfo (addASN1 tSEQ (oidOr oid ++ addASN1 tCtx0 c) ++ rest) = some (oid, c, rest) := by
  simp only [parseContentInfo, read_addASN1 tSEQ _ rest (by decide) hlen,
    readOID_oidOr oid _ hok hlen.left, readOptional_addASN1_nil tCtx0 c (by decide) hlen.right.body]
  rfl

theorem parseContentInfo_present_nil (oid : List Nat) (c : Bytes) (hok : oidArcsOk oid = true)
    (hlen : Fits (oidOr oid ++ addASN1 tCtx0 c)) :
    parseContentInfo (addASN1 tSEQ (oidOr oid ++ addASN1 tCtx0 c)) = some (oid, c, []) := by
  simpa using parseContentInfo_present oid c [] hok hlen

/-- whether `SignPKCS7` encapsulates the content -/
def attached (oid : List Nat) (content : Bytes) : Bool := content.length > 0 && oid != oidData

/-- body of the encapContentInfo SEQUENCE written by `SignPKCS7` -/
def eciBody (oid : List Nat) (content : Bytes) : Bytes :=
  oidOr oid ++ (if attached oid content then addASN1 tCtx0 (addASN1 tSEQ content) else [])

/-- the `Content` field `ParsePKCS7` stores for it -/
def eciContent (oid : List Nat) (content : Bytes) : Bytes :=
  if attached oid content then addASN1 tSEQ content else []

theorem parseContentInfo_eci (oid : List Nat) (content rest : Bytes) (hok : oidArcsOk oid = true)
    (hlen : Fits (eciBody oid content)) :
    parseContentInfo (addASN1 tSEQ (eciBody oid content) ++ rest) =
      some (oid, eciContent oid content, rest) := by
  unfold eciBody at hlen
  unfold eciBody eciContent
  cases h : attached oid content with
  | true =>
    simp only [h, if_true] at hlen ⊢
    exact parseContentInfo_present oid _ rest hok hlen
  | false =>
    simp only [h, Bool.false_eq_true, if_false, List.append_nil] at hlen ⊢
    exact parseContentInfo_absent oid rest hok hlen

theorem readAny_eciContent (oid : List Nat) (content : Bytes) (hcl : Fits content)
    (hne : eciContent oid content ≠ []) :
    readAny (eciContent oid content) = some (tSEQ, content, []) := by
  unfold eciContent at hne ⊢
  split
  · exact readAny_addASN1_nil tSEQ content (by decide) hcl
  · next hf => exact absurd (if_neg hf) hne

theorem contentVal_eci (oid : List Nat) (content : Bytes) (hcl : Fits content) :
    contentVal (eciContent oid content) = if attached oid content then some content else none := by
  unfold eciContent contentVal
  cases attached oid content with
  | true =>
    have hne : (addASN1 tSEQ content).isEmpty = false :=
      List.isEmpty_eq_false_iff.mpr (addASN1_ne_nil _ _)
    simp [hne, readAny_addASN1_nil tSEQ content (by decide) hcl]
  | false => rfl

/-! ### SignedData -/

/-- body of the SignedData SEQUENCE: version, digestAlgorithms, encapContentInfo, then `tail`
    (certificates and signerInfos) -/
def sdBody (oid : List Nat) (content tail : Bytes) : Bytes :=
  addUInt 1 ++ addASN1 tSET algSha256 ++ addASN1 tSEQ (eciBody oid content) ++ tail

/-- the outer ContentInfo -/
def outerBody (sd : Bytes) : Bytes := oidOr oidSignedData ++ addASN1 tCtx0 (addASN1 tSEQ sd)

theorem peek_outerBody (sd : Bytes) : peek tOID (outerBody sd) = true := by
  unfold outerBody; rw [peek_oidOr _ _ _ (by decide)]; decide

theorem parseHead_blob (oid : List Nat) (content tail : Bytes) (hok : oidArcsOk oid = true)
    (hlen : Fits (outerBody (sdBody oid content tail))) :
    parseHead (addASN1 tSEQ (outerBody (sdBody oid content tail))) =
      some (oid, eciContent oid content, tail) := by
  have hsd : Fits (sdBody oid content tail) := hlen.right.body.body
  have hci : parseContentInfo (addASN1 tSEQ (outerBody (sdBody oid content tail))) =
      some (oidSignedData, addASN1 tSEQ (sdBody oid content tail), []) :=
    parseContentInfo_present_nil oidSignedData _ (by decide) hlen
  simp only [parseHead, read_addASN1_nil tSEQ _ (by decide) hlen, peek_outerBody, if_true, hci, Option.map_some,
    read_addASN1_nil tSEQ _ (by decide) hsd]
  simp only [sdBody, List.append_assoc, readInt64_addUInt 1 _ (by decide),
    read_addASN1 tSET algSha256 _ (by decide) hsd.left.left.right.body, parseAlg_algSha256_nil,
    parseContentInfo_eci oid content tail hok hsd.left.right.body]

/-- everything `SignPKCS7` writes, as a function of the signed-attribute body -/
def signedBlob (oid : List Nat) (content certRaw issuerRaw : Bytes) (serial : Nat)
    (ab sig : Bytes) : Bytes :=
  addASN1 tSEQ (outerBody (sdBody oid content
    (addASN1 tCtx0 certRaw ++ addASN1 tSET (addASN1 tSEQ (signerBody issuerRaw serial ab sig)))))

theorem signPKCS7_eq (oid : List Nat) (content certRaw issuerRaw : Bytes) (serial : Nat)
    (time md sig : Bytes) :
    signPKCS7 oid content certRaw issuerRaw serial time md sig =
      (attrsBody { contentType := some oid, md := md, time := some time }).map
        (fun ab => signedBlob oid content certRaw issuerRaw serial ab sig) := by
  unfold signPKCS7
  cases attrsBody { contentType := some oid, md := md, time := some time } with
  | none => rfl
  | some ab =>
    simp only [Option.map_some, signedBlob, outerBody, sdBody, eciBody, attached, signerBody,
      List.append_assoc]
    congr 1

theorem parseP7_blob (certsOk : Bytes → Bool) (oid : List Nat) (content certRaw ibody : Bytes)
    (serial : Nat) (ab sig : Bytes) (A : Option Attrs)
    (hok : oidArcsOk oid = true) (hc : certsOk certRaw = true)
    (hA : ∀ r, parseAttrs (addASN1 tCtx0 ab ++ r) = some (A, r))
    (hlen : Fits (signedBlob oid content certRaw (addASN1 tSEQ ibody) serial ab sig)) :
    parseP7 certsOk (signedBlob oid content certRaw (addASN1 tSEQ ibody) serial ab sig) =
      some (⟨oid, eciContent oid content, some certRaw,
        [⟨1, addASN1 tSEQ ibody, serial, A, sig⟩]⟩ : P7) := by
  unfold signedBlob at hlen ⊢
  have htail := hlen.body.right.body.body.right
  have hsi := htail.right.body
  have hps := parseSigner_signer ibody serial ab sig [] A hA hsi.body
  rw [List.append_nil] at hps
  have hloop := signerLoop_one (List.isEmpty_eq_false_iff.mpr (addASN1_ne_nil _ _)) hps
  simp only [parseP7, parseHead_blob oid content _ hok hlen.body,
    readOptional_addASN1 tCtx0 certRaw _ (by decide) htail.left.body, Option.getD_some, hc,
    read_addASN1_nil tSET _ (by decide) hsi, hloop]
  rfl

/-! ### inputs of `SignPKCS7` and their well-formedness -/

/-- arguments of `signPKCS7` -/
structure SignInputs where
  oid : List Nat
  content : Bytes
  certRaw : Bytes
  issuerRaw : Bytes
  serial : Nat
  time : Bytes
  md : Bytes
  sig : Bytes

/-- Hypotheses of C05. The bound 2^24 on each variable-length input keeps every nested DER length
    below 2^32 (the builder's and the reader's limit): the whole output is then shorter than
    10·2^24 + 500 bytes. The signing time needs no bound: an accepted UTCTime has at most 17 bytes. -/
structure SignInputs.WF (x : SignInputs) (certsOk : Bytes → Bool) : Prop where
  /-- `validOID oid`, `40·a+b < 2^31` and every further arc `< 2^31` -/
  oidOk : oidArcsOk x.oid = true
  oidLen : (oidOr x.oid).length < 2^24
  contentLen : x.content.length < 2^24
  certLen : x.certRaw.length < 2^24
  issuerLen : x.issuerRaw.length < 2^24
  /-- the serial number has fewer than 2^24 bytes -/
  serialLen : (natBytes x.serial).length < 2^24
  mdLen : x.md.length < 2^24
  sigLen : x.sig.length < 2^24
  /-- the issuer is one SEQUENCE element (an X.501 Name) -/
  issuerSeq : ∃ body, x.issuerRaw = addASN1 tSEQ body
  /-- the UTCTime text re-serialises to itself (it carries seconds) -/
  timeOk : parseUTC x.time = some x.time
  /-- `x509.ParseCertificates` accepts the certificate -/
  certsOk : certsOk x.certRaw = true

/-- the signed-attribute body of these inputs -/
def SignInputs.attrs (x : SignInputs) : Bytes := signedAttrsBody x.oid x.time x.md

/-- the bytes `SignPKCS7` produces for these inputs (when the content-type OID is valid) -/
def SignInputs.blob (x : SignInputs) : Bytes :=
  signedBlob x.oid x.content x.certRaw x.issuerRaw x.serial x.attrs x.sig

theorem attrSeq_le {ty : List Nat} {v : Bytes} {k n : Nat} (hty : (oidOr ty).length ≤ k)
    (hv : v.length ≤ n) : (attrSeq ty v).length ≤ k + (n + 6) + 6 :=
  addASN1_le (append_le hty (addASN1_le hv))

theorem attrs_length_le (x : SignInputs) (certsOk : Bytes → Bool) (h : x.WF certsOk) :
    x.attrs.length ≤ 3 * 2^24 + 100 := by
  have h1 := attrSeq_le (ty := oidContentType) (k := 11) (by decide) (Nat.le_of_lt h.oidLen)
  have h2 := attrSeq_le (ty := oidSigningTime) (k := 11) (by decide)
    (addASN1_le (t := tUTC) (parseUTC_length h.timeOk))
  have h3 := attrSeq_le (ty := oidMessageDigest) (k := 11) (by decide)
    (addASN1_le (t := tOCT) (Nat.le_of_lt h.mdLen))
  rw [SignInputs.attrs, signedAttrsBody_length]
  exact Nat.le_trans (Nat.add_le_add (Nat.add_le_add h1 h2) h3) (by decide)

theorem attrs_fits (x : SignInputs) (certsOk : Bytes → Bool) (h : x.WF certsOk) : Fits x.attrs := by
  have := attrs_length_le x certsOk h; unfold Fits; omega

theorem signerBody_length_le (x : SignInputs) (certsOk : Bytes → Bool) (h : x.WF certsOk) :
    (signerBody x.issuerRaw x.serial x.attrs x.sig).length ≤ 6 * 2^24 + 200 := by
  have h1 : (addUInt 1).length ≤ 3 := by decide
  have h2 : algSha256.length ≤ 15 := by decide
  have h3 : (addASN1 tSEQ (oidOr oidRsa ++ addNULL)).length ≤ 15 := by decide
  have hint : (addUInt x.serial).length ≤ 2^24 + 6 :=
    addASN1_le (Nat.le_trans (uintBody_length_le x.serial) h.serialLen)
  have h4 := addASN1_le (t := tSEQ) (append_le (Nat.le_of_lt h.issuerLen) hint)
  have h5 := addASN1_le (t := tCtx0) (attrs_length_le x certsOk h)
  have h6 : (addOctets x.sig).length ≤ _ := addASN1_le (Nat.le_of_lt h.sigLen)
  -- the bounds of the six fields add up
  exact Nat.le_trans (append_le (append_le (append_le (append_le (append_le h1 h4) h2) h5) h3) h6)
    (by decide)

/-- certificates and signerInfos of the SignedData `SignPKCS7` writes -/
def SignInputs.tail (x : SignInputs) : Bytes :=
  addASN1 tCtx0 x.certRaw ++ addASN1 tSET (addASN1 tSEQ (signerBody x.issuerRaw x.serial x.attrs x.sig))

/-- the SignedData SEQUENCE itself: the element inside the outer ContentInfo's `[0]` -/
def SignInputs.bare (x : SignInputs) : Bytes := addASN1 tSEQ (sdBody x.oid x.content x.tail)

theorem blob_eq_bare (x : SignInputs) :
    x.blob = addASN1 tSEQ (oidOr oidSignedData ++ addASN1 tCtx0 x.bare) := rfl

theorem bare_length_le (x : SignInputs) (certsOk : Bytes → Bool) (h : x.WF certsOk) :
    x.bare.length ≤ 9 * 2^24 + 306 := by
  have h1 : (addUInt 1).length ≤ 3 := by decide
  have h2 : (addASN1 tSET algSha256).length ≤ 17 := by decide
  have he : (eciBody x.oid x.content).length ≤ 2^24 + (2^24 + 6 + 6) := by
    unfold eciBody
    split
    · exact append_le (Nat.le_of_lt h.oidLen) (addASN1_le (addASN1_le (Nat.le_of_lt h.contentLen)))
    · exact append_le (Nat.le_of_lt h.oidLen) (Nat.zero_le _)
  have h3 := addASN1_le (t := tSEQ) he
  have h4 := addASN1_le (t := tCtx0) (Nat.le_of_lt h.certLen)
  have h5 := addASN1_le (t := tSET) (addASN1_le (t := tSEQ) (signerBody_length_le x certsOk h))
  exact Nat.le_trans (addASN1_le (append_le (append_le (append_le h1 h2) h3) (append_le h4 h5)))
    (by decide)

theorem blob_length_lt (x : SignInputs) (certsOk : Bytes → Bool) (h : x.WF certsOk) :
    x.blob.length < 2^32 := by
  have h1 : (oidOr oidSignedData).length ≤ 11 := by decide
  rw [blob_eq_bare]
  exact Nat.lt_of_le_of_lt (addASN1_le (append_le h1 (addASN1_le (bare_length_le x certsOk h))))
    (by decide)

theorem signPKCS7_blob (x : SignInputs) (hv : validOID x.oid = true) :
    signPKCS7 x.oid x.content x.certRaw x.issuerRaw x.serial x.time x.md x.sig = some x.blob := by
  rw [signPKCS7_eq, attrsBody_signed_iff.mpr ⟨hv, rfl⟩]; rfl

/-- the two hypotheses under which the C05 theorems speak of `ab` and `blob` name `x.attrs` and
    `x.blob` -/
theorem SignInputs.eq_of_sign {x : SignInputs} {ab blob : Bytes}
    (hab : attrsBody { contentType := some x.oid, md := x.md, time := some x.time } = some ab)
    (hs : signPKCS7 x.oid x.content x.certRaw x.issuerRaw x.serial x.time x.md x.sig = some blob) :
    x.attrs = ab ∧ x.blob = blob := by
  obtain ⟨hv, hab⟩ := attrsBody_signed_iff.mp hab
  rw [signPKCS7_blob x hv, Option.some.injEq] at hs
  exact ⟨hab, hs⟩

/-- the value `ParsePKCS7` returns for `x.blob` -/
def SignInputs.parsed (x : SignInputs) : P7 :=
  ⟨x.oid, eciContent x.oid x.content, some x.certRaw,
    [⟨1, x.issuerRaw, x.serial,
      some { contentType := some x.oid, md := x.md, time := some x.time, other := [],
             raw := some (addASN1 tSET x.attrs) }, x.sig⟩]⟩

theorem parseP7_blob_wf (x : SignInputs) (certsOk : Bytes → Bool) (h : x.WF certsOk) :
    parseP7 certsOk x.blob = some x.parsed := by
  have hlen := blob_length_lt x certsOk h
  obtain ⟨ibody, hi⟩ := h.issuerSeq
  unfold SignInputs.blob SignInputs.parsed at *
  rw [hi] at hlen ⊢
  exact parseP7_blob certsOk x.oid x.content x.certRaw ibody x.serial x.attrs x.sig _ h.oidOk h.certsOk
    (fun r => parseAttrs_signed x.oid x.time x.md r h.oidOk h.timeOk (attrs_fits x certsOk h)) hlen

/-! ### verification of the parsed value -/

theorem verify_parsed (C : Crypto) (c : Cert) (x : SignInputs)
    (hi : c.rawIssuer = x.issuerRaw) (hs : c.serial = (x.serial : Int))
    (hcl : x.content.length < 2^32)
    (hsig : C.rsaVerify c.pub (addASN1 tSET x.attrs) x.sig = true)
    (hmd : x.md = C.sha256 x.content) :
    x.parsed.verify C c = .ok true := by
  have hcert : (x.issuerRaw == c.rawIssuer && (x.serial : Int) == c.serial) = true := by
    simp [hi, hs]
  unfold SignInputs.parsed P7.verify
  simp only [verifySigners, Signer.isCertificate, hcert, if_true]
  exact Signer.verify_ok_true_iff.mpr ⟨_, rfl, ⟨_, .inl rfl, hsig⟩,
    fun hne => ⟨_, _, _, readAny_eciContent x.oid x.content hcl hne, hmd.symm⟩⟩

/-! ### the specification's verdict on the same bytes -/

theorem parseSignedData_outer (sd : Bytes) (hlen : Fits (outerBody sd)) (hp : peek tOID sd = false) :
    Spec.parseSignedData (addASN1 tSEQ (outerBody sd)) = Spec.parseSignedData (addASN1 tSEQ sd) := by
  have hsd : Fits (addASN1 tSEQ sd) := hlen.right.body
  have ho : specBody (outerBody sd) = some sd := by
    unfold specBody
    rw [if_pos (peek_outerBody sd)]
    unfold outerBody
    simp only [readOID_oidOr oidSignedData _ (by decide) (by decide), Option.bind_eq_bind,
      Option.bind_some, read_addASN1_nil tCtx0 _ (by decide) hsd,
      read_addASN1_nil tSEQ _ (by decide) hsd.body, Option.pure_def]
  have hb : specBody sd = some sd := by simp [specBody, hp]
  rw [parseSignedData_eq, parseSignedData_eq, read_addASN1_nil tSEQ _ (by decide) hlen,
    read_addASN1_nil tSEQ _ (by decide) hsd.body]
  simp only [Option.bind_eq_bind, Option.bind_some, ho, hb]

/-- a SignedData body starts with the version INTEGER, not with an OID -/
theorem peek_sdBody (oid : List Nat) (content tail : Bytes) :
    peek tOID (sdBody oid content tail) = false := by
  simp only [sdBody, addUInt_eq, List.append_assoc, peek_addASN1]
  decide

/-- The RFC-style walk over what `SignPKCS7` wrote: the encapsulated content (if any) and the single
    SignerInfo. The specification's parser succeeds wherever the library's does
    (`parseSignedData_of_parseP7`), and the library's reads `x.parsed`: one signer, whose `raw`
    determines its counterpart. -/
theorem parseSignedData_blob (x : SignInputs) (certsOk : Bytes → Bool) (h : x.WF certsOk) :
    Spec.parseSignedData x.blob =
      some (if attached x.oid x.content then some x.content else none,
        [⟨x.issuerRaw, x.serial, some (addASN1 tCtx0 x.attrs), x.attrs, x.sig⟩]) := by
  have hcl : Fits x.content := by have := h.contentLen; unfold Fits; omega
  obtain ⟨ys, hys, hrel⟩ := parseSignedData_of_parseP7 (parseP7_blob_wf x certsOk h)
    fun hne => ⟨_, _, _, readAny_eciContent x.oid x.content hcl hne⟩
  obtain ⟨y, rfl, hy⟩ := hrel.one
  rw [hys, hy.eq rfl rfl]
  exact congrArg (fun c => some (c, _)) (contentVal_eci x.oid x.content hcl)

theorem findMD_nil (f : Nat) (acc : Option Bytes) : Spec.findMD f [] acc = some acc := by
  cases f <;> rfl

theorem findMD_other (ty : List Nat) (v rest : Bytes) (acc : Option Bytes) (f : Nat)
    (hty : oidArcsOk ty = true) (hne : (ty == Spec.oidMessageDigest) = false)
    (hlen : Fits (attrSeq ty v)) :
    Spec.findMD (f + 1) (attrSeq ty v ++ rest) acc = Spec.findMD f rest acc := by
  obtain ⟨h1, h2, h3⟩ := attrSeq_reads ty v rest hty hlen
  simp only [Spec.findMD, attrSeq_append_isEmpty, h1, h2, h3, hne]
  rfl

theorem findMD_md (d rest : Bytes) (acc : Option Bytes) (f : Nat)
    (hlen : Fits (attrSeq oidMessageDigest (addOctets d))) :
    Spec.findMD (f + 1) (attrSeq oidMessageDigest (addOctets d) ++ rest) acc =
      Spec.findMD f rest (some d) := by
  obtain ⟨h1, h2, h3⟩ := attrSeq_reads oidMessageDigest (addOctets d) rest (by decide) hlen
  simp only [Spec.findMD, attrSeq_append_isEmpty, h1, h2, h3,
    show (oidMessageDigest == Spec.oidMessageDigest) = true from by decide,
    read_addOctets_nil d hlen.body.right.body.body]
  rfl

/-- The specification finds the messageDigest value among the three signed attributes, whatever
    their order. (The simulation `findMD_of_attrLoop` cannot give this: the parsed `Attrs` do not
    say whether a messageDigest attribute was present.) -/
theorem findMD_signed (oid : List Nat) (time md : Bytes)
    (hlen : Fits (signedAttrsBody oid time md)) :
    Spec.findMD (signedAttrsBody oid time md).length (signedAttrsBody oid time md) none =
      some (some md) := by
  obtain ⟨h1, h2, h3⟩ := signedAttrsBody_fits hlen
  -- two turns that leave the value found so far, and one that sets it
  exact loop_sortEnc3 findMD_nil
    (fun f r acc => findMD_other oidContentType _ r acc f (by decide) (by decide) h1)
    (fun f r acc => findMD_other oidSigningTime _ r acc f (by decide) (by decide) h2)
    (fun f r acc => findMD_md md r acc f h3)
    (fun _ => rfl) (fun _ => rfl) (fun _ => rfl) (signedAttrsBody_length_ge oid time md) none

theorem signerAccepts_signed (C : Crypto) (c : Cert) (cv : Option Bytes) (x : SignInputs)
    (hal : Fits x.attrs) :
    Spec.signerAccepts C c cv ⟨x.issuerRaw, x.serial, some (addASN1 tCtx0 x.attrs), x.attrs, x.sig⟩ =
      ((x.issuerRaw == c.rawIssuer && (x.serial : Int) == c.serial) &&
        (C.rsaVerify c.pub (addASN1 tSET x.attrs) x.sig &&
          match cv with
          | none => true
          | some v => x.md == C.sha256 v)) := by
  have hfind : Spec.findMD x.attrs.length x.attrs none = some (some x.md) :=
    findMD_signed x.oid x.time x.md hal
  cases cv <;> simp only [Spec.signerAccepts, addASN1_retag, hfind]

/-- the specification's verdict on `x.blob`; `detached` is only consulted when nothing is
    encapsulated -/
theorem cmsVerify_blob_eq (C : Crypto) (c : Cert) (x : SignInputs) (certsOk : Bytes → Bool)
    (h : x.WF certsOk) (detached : Option Bytes) :
    Spec.cmsVerify C x.blob c detached =
      ((x.issuerRaw == c.rawIssuer && (x.serial : Int) == c.serial) &&
        (C.rsaVerify c.pub (addASN1 tSET x.attrs) x.sig &&
          match (if attached x.oid x.content then some x.content else detached) with
          | none => true
          | some v => x.md == C.sha256 v)) := by
  simp only [Spec.cmsVerify, parseSignedData_blob x certsOk h, List.any_cons, List.any_nil,
    Bool.or_false, signerAccepts_signed C c _ x (attrs_fits x certsOk h)]
  cases attached x.oid x.content <;> rfl

/-- the bare SignedData (what `SignEFIVariable` embeds) gets the verdict of the whole -/
theorem cmsVerify_bare_eq (C : Crypto) (c : Cert) (x : SignInputs) (hlen : Fits x.blob)
    (detached : Option Bytes) :
    Spec.cmsVerify C x.bare c detached = Spec.cmsVerify C x.blob c detached := by
  have e : Spec.parseSignedData x.blob = Spec.parseSignedData x.bare :=
    parseSignedData_outer _ hlen.body (peek_sdBody ..)
  rw [Spec.cmsVerify, Spec.cmsVerify, e]

theorem cmsVerify_blob (C : Crypto) (c : Cert) (x : SignInputs) (certsOk : Bytes → Bool)
    (h : x.WF certsOk) (hi : c.rawIssuer = x.issuerRaw) (hs : c.serial = (x.serial : Int))
    (hsig : C.rsaVerify c.pub (addASN1 tSET x.attrs) x.sig = true)
    (hmd : x.md = C.sha256 x.content) :
    Spec.cmsVerify C x.blob c (if attached x.oid x.content then none else some x.content) = true := by
  rw [cmsVerify_blob_eq C c x certsOk h, hi, hs, hsig]
  cases attached x.oid x.content <;> simp [hmd]

/-! ### where the signed attributes sit in the output -/

theorem suffix_addASN1 {t : UInt8} {body X : Bytes} (h : X <:+ body) : X <:+ addASN1 t body :=
  h.trans (List.suffix_append _ body)

theorem signedBlob_suffix (oid : List Nat) (content certRaw issuerRaw : Bytes) (serial : Nat)
    (ab sig : Bytes) :
    addASN1 tCtx0 ab ++ (addASN1 tSEQ (oidOr oidRsa ++ addNULL) ++ addOctets sig) <:+
      signedBlob oid content certRaw issuerRaw serial ab sig := by
  unfold signedBlob outerBody sdBody signerBody
  simp only [List.append_assoc]
  -- the path to the last three fields of the SignerInfo: into an element, or past the fields in front
  apply suffix_addASN1; apply List.suffix_append_of_suffix
  apply suffix_addASN1; apply suffix_addASN1
  apply List.suffix_append_of_suffix; apply List.suffix_append_of_suffix
  apply List.suffix_append_of_suffix; apply List.suffix_append_of_suffix
  apply suffix_addASN1; apply suffix_addASN1
  apply List.suffix_append_of_suffix; apply List.suffix_append_of_suffix
  apply List.suffix_append_of_suffix
  exact List.suffix_refl _

/-! ### concrete inputs for the non-vacuity examples of C05 -/

/-- SPC_INDIRECT_DATA content type, 3 content bytes, a one-element issuer, UTCTime "260929203000Z" -/
def SignInputs.sample : SignInputs :=
  { oid := [1, 3, 6, 1, 4, 1, 311, 2, 1, 4], content := [1, 2, 3], certRaw := [0x30, 0],
    issuerRaw := [0x30, 0], serial := 0x1234,
    time := [0x32, 0x36, 0x30, 0x39, 0x32, 0x39, 0x32, 0x30, 0x33, 0x30, 0x30, 0x30, 0x5a],
    md := [9, 9], sig := [7] }

/-- detached variant: content type id-data -/
def SignInputs.sampleData : SignInputs := { SignInputs.sample with oid := oidData }

end GoUefi.Impl

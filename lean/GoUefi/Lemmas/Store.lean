import GoUefi.Model.Store
import GoUefi.Lemmas.SigDb
import GoUefi.Lemmas.AuthDesc
/-
  What C12 rests on: the in-memory test store behaves as one register per variable.
  Association-list facts for `Store.get` / `Store.put`; a database encoding is not an authentication
  descriptor, so it is stored as it is; histories of operations and their last written value, and
  the store after a history seen from one variable (`foldl_get`).
-/
namespace GoUefi.Impl

/-! ## the association list -/

theorem Store.get_put_same (s : Store) (v : String) (b : Bytes) : (s.put v b).get v = some b := by
  simp [Store.get, Store.put]

theorem Store.get_put_ne (s : Store) {v w : String} (h : w ≠ v) (b : Bytes) :
    (s.put w b).get v = s.get v := by
  unfold Store.get Store.put
  rw [List.find?_cons_of_neg (by simpa using h), List.find?_filter]
  -- among the entries under `v` the filter keeps all
  congr 2
  funext x
  by_cases hx : x.1 = v
  · simp [hx, Ne.symm h]
  · simp [hx]

/-! ## a database encoding never parses as an authentication descriptor -/

/-- a descriptor is rejected when bytes 20–21, its wRevision, are not 0x0200 -/
theorem readAuth_bad_rev (ty a rv rest : Bytes) (hty : ty.length = 16) (ha : a.length = 4)
    (hrv : rv.length = 2) (hne : rd16 rv ≠ winCertRevision) :
    readAuth (ty ++ (a ++ (rv ++ rest))) = .err := by
  unfold readAuth
  rw [readN_len ty _ hty]
  simp only [readWinCertGuid, readWinCert, readN_len a _ ha, readN_len rv _ hrv]
  -- the certificate type is read before the revision is looked at
  cases readN 2 rest with
  | error _ => rfl
  | ok p => simp only [hne, ne_eq, not_false_eq_true, if_true]

theorem readAuth_of_readDb {b : Bytes} {db : Db} (h : readDb b = some db) : readAuth b = .err := by
  obtain ⟨e, w⟩ := readDb_ok h
  subst e
  cases db with
  | nil => decide
  | cons l ls =>
    obtain ⟨⟨hty, hH, _⟩, _⟩ := w l (by simp)
    -- the low half of the first list's HeaderSize stands where the revision would
    have hz : le32 0 = [0, 0] ++ [0, 0] := by decide
    rw [encDb_cons, encList, hH, hz]
    simp only [List.append_assoc]
    exact readAuth_bad_rev l.type (le32 l.listSize) [0, 0] _ hty (le32_length _) rfl (by decide)

theorem storedValue_of_readDb (v : String) {b : Bytes} {db : Db} (h : readDb b = some db) :
    storedValue v b = b := by
  unfold storedValue
  rw [readAuth_of_readDb h]
  simp

theorem storedValue_plain {v : String} (hv : isSecureBootVar v = false) (b : Bytes) :
    storedValue v b = b := by
  simp [storedValue, hv]

theorem storedValue_signed {v : String} (hv : isSecureBootVar v = true) {desc payload : Bytes}
    {d : AuthDesc} (ha : readAuth (desc ++ payload) = .ok (d, payload)) :
    storedValue v (desc ++ payload) = payload := by
  unfold storedValue
  rw [if_pos hv, ha]

theorem Store.read_of_get {s : Store} {v : String} {b : Bytes} (hg : s.get v = some b)
    (hb : isSecureBootVar v = true → ∃ db, readDb b = some db) : s.read v = .ok b := by
  unfold Store.read
  rw [hg]
  by_cases hv : isSecureBootVar v = true
  · obtain ⟨db, hdb⟩ := hb hv
    simp only [hv, if_true, hdb, (readDb_ok hdb).1.symm]
  · simp only [hv, Bool.false_eq_true, if_false]

theorem Store.read_congr {s t : Store} {v : String} (h : s.get v = t.get v) : s.read v = t.read v := by
  unfold Store.read; rw [h]

/-! ## operations and histories -/

/-- an operation on the store: plain `WriteVar`, `WriteSignedUpdate`, or a typed read -/
inductive Op where
  | write (v : String) (b : Bytes)
  | signed (v : String) (desc payload : Bytes)
  | read (v : String)
deriving DecidableEq, Repr

/-- reads leave the store unchanged -/
def step (s : Store) : Op → Store
  | .write v b => s.writeVar v b
  | .signed v desc payload => s.writeSigned v desc payload
  | .read _ => s

/-- the variable an operation writes -/
def Op.target : Op → Option String
  | .write v _ => some v
  | .signed v _ _ => some v
  | .read _ => none

/-- the value argument of a write: `b`, resp. `payload` -/
def Op.value : Op → Bytes
  | .write _ b => b
  | .signed _ _ payload => payload
  | .read _ => []

/-- the bytes the store keeps for a write -/
def Op.stored : Op → Bytes
  | .write v b => storedValue v b
  | .signed v desc payload => storedValue v (desc ++ payload)
  | .read _ => []

/-- the most recent write / signed operation on `v` (histories are oldest first) -/
def lastWrite : List Op → String → Option Op
  | [], _ => none
  | op :: ops, v =>
    match lastWrite ops v with
    | some o => some o
    | none => if op.target = some v then some op else none

/-- the value argument of the most recent write to `v` -/
def lastValue (ops : List Op) (v : String) : Option Bytes := (lastWrite ops v).map Op.value

/-- what the library hands to the store (and nothing more):
    * a value written to PK/KEK/db/dbx is the encoding of a decodable database;
    * a signed update goes to a secure-boot variable, its bytes parse as descriptor ‖ payload with
      exactly `payload` left over (C06 / C10), and the payload is a decodable database;
    * no condition on other variables, none on reads. -/
def Op.WF : Op → Prop
  | .write v b => isSecureBootVar v = true → ∃ db, readDb b = some db
  | .signed v desc payload =>
    isSecureBootVar v = true ∧ (∃ d, readAuth (desc ++ payload) = .ok (d, payload)) ∧
    ∃ db, readDb payload = some db
  | .read _ => True

/-- a well-formed history: every operation is well formed (no condition on the initial store) -/
def History.WF (ops : List Op) : Prop := ∀ op ∈ ops, op.WF

theorem lastWrite_eq (ops : List Op) (v : String) :
    lastWrite ops v = ops.reverse.find? (fun op => op.target = some v) := by
  induction ops with
  | nil => rfl
  | cons o os ih =>
    rw [lastWrite, ih, List.reverse_cons, List.find?_append]
    cases os.reverse.find? (fun op => decide (op.target = some v)) with
    | some _ => rfl
    | none => by_cases h : o.target = some v <;> simp [h]

theorem lastWrite_append (ops : List Op) (op : Op) (v : String) :
    lastWrite (ops ++ [op]) v = if op.target = some v then some op else lastWrite ops v := by
  rw [lastWrite_eq, lastWrite_eq, List.reverse_append, List.reverse_singleton,
    List.singleton_append, List.find?_cons]
  by_cases h : op.target = some v <;> simp [h]

theorem lastWrite_mem {ops : List Op} {v : String} {op : Op} (h : lastWrite ops v = some op) :
    op ∈ ops ∧ op.target = some v := by
  rw [lastWrite_eq] at h
  exact ⟨List.mem_reverse.mp (List.mem_of_find?_eq_some h),
    of_decide_eq_true (List.find?_some (p := fun op : Op => decide (op.target = some v)) h)⟩

theorem lastWrite_eq_none_iff (ops : List Op) (v : String) :
    lastWrite ops v = none ↔ ∀ op ∈ ops, op.target ≠ some v := by
  rw [lastWrite_eq, List.find?_eq_none]
  simp only [List.mem_reverse, decide_eq_true_eq]

theorem step_eq (s : Store) (op : Op) :
    step s op = match op.target with
      | some v => s.put v op.stored
      | none => s := by
  cases op <;> rfl

theorem step_get (s : Store) (op : Op) (v : String) :
    (step s op).get v = if op.target = some v then some op.stored else s.get v := by
  rw [step_eq]
  cases op.target with
  | none => simp
  | some w =>
    by_cases h : w = v
    · subst h; simp [Store.get_put_same]
    · simp [h, Store.get_put_ne s h]

theorem foldl_get (ops : List Op) (s : Store) (v : String) :
    (ops.foldl step s).get v =
      match lastWrite ops v with
      | some op => some op.stored
      | none => s.get v := by
  induction ops generalizing s with
  | nil => rfl
  | cons o os ih =>
    rw [List.foldl_cons, ih, lastWrite]
    cases lastWrite os v with
    | some o' => rfl
    | none =>
      simp only [step_get]
      by_cases h : o.target = some v <;> simp [h]

theorem Op.WF.stored_eq {op : Op} (h : op.WF) {v : String} (ht : op.target = some v) :
    op.stored = op.value ∧ (isSecureBootVar v = true → ∃ db, readDb op.value = some db) := by
  cases op with
  | write w b =>
    cases ht
    refine ⟨?_, h⟩
    show storedValue v b = b
    by_cases hv : isSecureBootVar v = true
    · obtain ⟨db, hdb⟩ := h hv
      exact storedValue_of_readDb v hdb
    · exact storedValue_plain (by simpa using hv) b
  | signed w d p =>
    cases ht
    obtain ⟨hv, ⟨a, ha⟩, ⟨db, hdb⟩⟩ := h
    exact ⟨storedValue_signed hv ha, fun _ => ⟨db, hdb⟩⟩
  | read w => nomatch ht

/-- the register property with the weakest hypothesis: only the last write to `v` has to be well
    formed (earlier operations, and operations on other variables, may be arbitrary) -/
theorem read_foldl_of_lastWrite {ops : List Op} {s : Store} {v : String} {op : Op}
    (hl : lastWrite ops v = some op) (hwf : op.WF) : (ops.foldl step s).read v = .ok op.value := by
  obtain ⟨hst, hdec⟩ := hwf.stored_eq (lastWrite_mem hl).2
  apply Store.read_of_get _ hdec
  rw [foldl_get, hl]
  simp only [hst]

theorem read_foldl_of_none {ops : List Op} {s : Store} {v : String}
    (hl : lastWrite ops v = none) : (ops.foldl step s).read v = s.read v := by
  apply Store.read_congr
  rw [foldl_get, hl]

end GoUefi.Impl

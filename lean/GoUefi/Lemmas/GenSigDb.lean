import GoUefi.Gen
import GoUefi.Lemmas.GenGuid
/-!
  The machine-translated signature list / database operations of `GoUefi/Gen.lean` (efi/signature/signature_list.go,
  signature_database.go), no abstraction involved: every `for … range` helper is characterised by a closed form
  over lists, or, where it stops at the first list that takes the entry, by one turn (`Append.loop1_cons`,
  `Remove.loop1_cons`) and by what it can answer (`AppendBytes_cases`, `Append.loop1_cases`).  `Append` and `Remove`
  are their list loops followed by `appendTail` / `rmTail`; `normData` is the PEM normalisation that `Append` and
  `AppendBytes` each perform.  In front, three facts about `List.map` / `List.lookup` under an injective function,
  which `Properties/C09g.lean` applies to the abstraction `absSD`.
-/
namespace GoUefi.Gen
open signature
open GoUefi.GenGuid (CmpEFIGUID_eq)

/-! ### `List.map` and `List.lookup` under an injective function -/

theorem mem_map_inj {α β : Type} {f : α → β} (hf : ∀ {x y}, f x = f y → x = y) {a : α} {l : List α} :
    f a ∈ l.map f ↔ a ∈ l :=
  ⟨fun h => by obtain ⟨x, hx, e⟩ := List.mem_map.mp h; exact hf e ▸ hx, List.mem_map_of_mem⟩

theorem map_erase_inj {α β : Type} [DecidableEq α] [DecidableEq β] {f : α → β}
    (hf : ∀ {x y}, f x = f y → x = y) (a : α) (l : List α) :
    (l.erase a).map f = (l.map f).erase (f a) := by
  rw [List.erase_eq_eraseP, List.erase_eq_eraseP, List.eraseP_map]
  congr 2
  funext x
  exact Bool.eq_iff_iff.mpr ⟨fun h => by rw [Function.comp_apply, eq_of_beq h]; exact beq_self_eq_true _,
    fun h => by rw [hf (eq_of_beq h)]; exact beq_self_eq_true _⟩

theorem lookup_isSome_map {α β γ : Type} [BEq α] [LawfulBEq α] [BEq γ] [LawfulBEq γ] {f : α → γ}
    (hf : ∀ {x y}, f x = f y → x = y) (a : α) (l : List (α × β)) :
    (l.lookup a).isSome = (l.map (f ·.1)).contains (f a) := by
  rw [Bool.eq_iff_iff, List.lookup_isSome_iff, List.contains_iff_mem, List.mem_map]
  constructor
  · rintro ⟨p, hp, h⟩
    exact ⟨p, hp, by rw [eq_of_beq h]⟩
  · rintro ⟨p, hp, h⟩
    exact ⟨p, hp, by rw [hf h]; exact beq_self_eq_true _⟩

/-- two `continue` guards in front of a loop body -/
theorem continue_guards {α : Type} (b c : Bool) (skip body : α) :
    (if (!b) = true then skip else if (!c) = true then skip else body) =
      if b = true ∧ c = true then body else skip := by
  cases b <;> cases c <;> rfl

/-! ### `SignatureList.Exists` -/

theorem signature.SignatureData.eq_iff (x s : SignatureData) :
    x = s ↔ x.Owner = s.Owner ∧ x.Data = s.Data := by
  cases x; cases s; simp

theorem signature.SignatureList.Exists.loop1_cons (s x : SignatureData) (idx : Int) (rest : List SignatureData) :
    SignatureList.Exists.loop1 s idx (x :: rest) =
      if x = s then Loop.ret (true, idx) else SignatureList.Exists.loop1 s (idx + 1) rest := by
  rw [SignatureList.Exists.loop1, continue_guards, CmpEFIGUID_eq]
  simp only [decide_eq_true_eq, beq_iff_eq, SignatureData.eq_iff]

theorem signature.SignatureList.Exists.loop1_eq (s : SignatureData) (idx : Int) (sigs : List SignatureData) :
    SignatureList.Exists.loop1 s idx sigs =
      if s ∈ sigs then Loop.ret (true, idx + (sigs.idxOf s : Nat)) else Loop.done () := by
  induction sigs generalizing idx with
  | nil => simp [SignatureList.Exists.loop1]
  | cons x rest ih =>
    rw [SignatureList.Exists.loop1_cons, List.idxOf_cons]
    by_cases hx : x = s
    · simp [hx]
    · have hx' : ¬ s = x := fun h => hx h.symm
      rw [if_neg hx, ih, beq_false_of_ne hx]
      by_cases hm : s ∈ rest
      · simp only [hm, hx', List.mem_cons, or_true, if_true, cond_false, Int.natCast_add, Int.natCast_one]
        rw [Int.add_assoc, Int.add_comm 1]
      · simp [hx', hm]

theorem signature.SignatureList.Exists_eq (sl : SignatureList) (s : SignatureData) :
    sl.Exists s = if s ∈ sl.Signatures then (true, ((sl.Signatures.idxOf s : Nat) : Int)) else (false, 0) := by
  unfold SignatureList.Exists
  rw [SignatureList.Exists.loop1_eq]
  by_cases hm : s ∈ sl.Signatures
  · simp [hm]
  · simp [hm]

theorem signature.SignatureList.Exists_fst (sl : SignatureList) (s : SignatureData) :
    (sl.Exists s).1 = decide (s ∈ sl.Signatures) := by
  rw [SignatureList.Exists_eq]; split <;> simp [*]

/-! ### `SignatureList.RemoveBytes` -/

theorem signature.SignatureList.RemoveBytes_eq (sl : SignatureList) (o : util.EFIGUID) (d : List UInt8) :
    sl.RemoveBytes o d =
      if (⟨o, d⟩ : SignatureData) ∈ sl.Signatures then
        if sl.Signatures.length = 1 then (NewSignatureList sl.SignatureType, none)
        else ({ sl with Signatures := sl.Signatures.erase ⟨o, d⟩, ListSize := sl.ListSize - sl.Size }, none)
      else (sl, some "ErrNotFoundSigData") := by
  unfold SignatureList.RemoveBytes
  simp only [SignatureList.Exists_eq]
  by_cases hm : (⟨o, d⟩ : SignatureData) ∈ sl.Signatures
  · simp only [hm, if_true, Bool.not_true, Bool.false_eq_true, if_false]
    by_cases h1 : sl.Signatures.length = 1
    · simp [h1, lenI]
    · have h1' : ¬ ((sl.Signatures.length : Int) = 1) := fun e => h1 (Int.natCast_inj.mp e)
      simp only [lenI, beq_iff_eq, h1', if_false, h1, slice_remove]
      rw [List.erase_eq_eraseIdx_of_idxOf rfl]
  · simp [hm]

/-! ### `SignatureDatabase.SigDataExists`, `Exists`, `BytesExists` -/

theorem signature.SignatureDatabase.SigDataExists.loop1_eq (t : util.EFIGUID) (s : SignatureData)
    (sd : List SignatureList) :
    SignatureDatabase.SigDataExists.loop1 t s sd =
      if sd.any (fun l => decide (l.SignatureType = t) && decide (s ∈ l.Signatures))
      then Loop.ret true else Loop.done () := by
  induction sd with
  | nil => rfl
  | cons l rest ih =>
    rw [SignatureDatabase.SigDataExists.loop1, ih, List.any_cons, CmpEFIGUID_eq]
    simp only [SignatureList.Exists_fst]
    -- whatever the two tests answer, both sides compute to the same branch
    cases decide (l.SignatureType = t) <;> cases decide (s ∈ l.Signatures) <;> rfl

theorem signature.SignatureDatabase.SigDataExists_eq (sd : SignatureDatabase) (t : util.EFIGUID)
    (s : SignatureData) :
    sd.SigDataExists t s =
      List.any sd (fun l => decide (l.SignatureType = t) && decide (s ∈ l.Signatures)) := by
  unfold SignatureDatabase.SigDataExists
  rw [SignatureDatabase.SigDataExists.loop1_eq]
  cases h : List.any sd (fun l => decide (l.SignatureType = t) && decide (s ∈ l.Signatures)) <;> simp

theorem signature.SignatureDatabase.Exists.loop1_eq (sd : SignatureDatabase) (sl : SignatureList) (i : Int)
    (sigs : List SignatureData) :
    SignatureDatabase.Exists.loop1 sd sl i sigs =
      if sigs.all (fun s => sd.SigDataExists sl.SignatureType s) then Loop.done () else Loop.ret false := by
  induction sigs generalizing i with
  | nil => simp [SignatureDatabase.Exists.loop1]
  | cons x rest ih =>
    rw [SignatureDatabase.Exists.loop1, ih]
    cases h : sd.SigDataExists sl.SignatureType x <;> simp [h]

theorem signature.SignatureDatabase.Exists_eq (sd : SignatureDatabase) (t : util.EFIGUID) (sl : SignatureList) :
    sd.Exists t sl = sl.Signatures.all (fun s => sd.SigDataExists sl.SignatureType s) := by
  unfold SignatureDatabase.Exists
  rw [SignatureDatabase.Exists.loop1_eq]
  cases h : sl.Signatures.all (fun s => sd.SigDataExists sl.SignatureType s) <;> simp

/-! ### `SignatureDatabase.RemoveList`, `removeslice` -/

theorem signature.SignatureDatabase.removeslice_length (pre : List SignatureList) (x : SignatureList)
    (rest : List SignatureList) :
    SignatureDatabase.removeslice (pre ++ x :: rest) (pre.length : Int) = pre ++ rest := by
  unfold SignatureDatabase.removeslice
  split
  · -- a database of one list: nothing in front of it, nothing behind
    rename_i h1
    have h : (pre ++ x :: rest).length = 1 := Int.natCast_inj.mp (eq_of_beq h1)
    rw [List.length_append] at h
    exact (List.eq_nil_of_length_eq_zero (by rw [List.length_append]; exact Nat.succ.inj h)).symm
  · rw [slice_remove, List.eraseIdx_append_of_length_le (Nat.le_refl _), Nat.sub_self]
    rfl

theorem signature.SignatureDatabase.RemoveList.loop1_eq (sl : SignatureList) (pre ls : List SignatureList) :
    SignatureDatabase.RemoveList.loop1 sl pre (pre.length : Int) ls =
      if sl ∈ ls then Loop.ret (pre ++ ls.erase sl, none) else Loop.done (pre ++ ls) := by
  induction ls generalizing pre with
  | nil => simp [SignatureDatabase.RemoveList.loop1]
  | cons x rest ih =>
    rw [SignatureDatabase.RemoveList.loop1]
    by_cases hx : sl = x
    · subst hx
      simp [SignatureDatabase.removeslice_length]
    · have hx' : ¬ x = sl := fun h => hx h.symm
      have hb : (sl == x) = false := beq_false_of_ne hx
      have hl : ((pre.length : Int) + 1) = ((pre ++ [x]).length : Int) := by simp
      rw [hb, hl, ih]
      simp [hx, hx']

theorem signature.SignatureDatabase.RemoveList_eq (sd : SignatureDatabase) (sl : SignatureList) :
    sd.RemoveList sl = if sl ∈ sd then (sd.erase sl, none) else (sd, some "ErrNotFoundSigList") := by
  unfold SignatureDatabase.RemoveList
  have := SignatureDatabase.RemoveList.loop1_eq sl [] sd
  simp only [List.length_nil, Int.natCast_zero, List.nil_append] at this
  rw [this]
  by_cases h : sl ∈ sd <;> simp [h]

theorem signature.SignatureDatabase.RemoveList_new (pre rest : List SignatureList) (x : SignatureList)
    (h : x ∉ pre) : SignatureDatabase.RemoveList (pre ++ x :: rest) x = (pre ++ rest, none) := by
  rw [SignatureDatabase.RemoveList_eq, if_pos (by simp), List.erase_append_right _ h]
  simp

/-! ### `SignatureList.AppendBytes` -/

/-- the PEM normalisation both `Append` and `AppendBytes` perform on X.509 data -/
def normData (E : Ext) (t : util.EFIGUID) (d : List UInt8) : List UInt8 :=
  if t = CERT_X509_GUID then (if (E.pemDecode d).1.isNil then d else (E.pemDecode d).1.Bytes) else d

theorem normData_eq (E : Ext) (t : util.EFIGUID) (d : List UInt8) :
    (if (t == CERT_X509_GUID) = true then
        (if (!(E.pemDecode d).1.isNil) = true then (E.pemDecode d).1.Bytes else d) else d) =
      normData E t d := by
  unfold normData
  by_cases hx : t = CERT_X509_GUID
  · by_cases hn : (E.pemDecode d).1.isNil = true <;> simp [hx, hn]
  · simp [hx]

/-- a `switch` whose cases differ only in a check in front of a common continuation -/
theorem ite_ite_common {α : Type} {c1 c2 p1 p2 : Prop} [Decidable c1] [Decidable c2] [Decidable p1]
    [Decidable p2] (h : c1 → ¬ c2) (bad rest : α) :
    (if c1 then (if p1 then bad else rest) else if c2 then (if p2 then bad else rest) else rest) =
      if c1 ∧ p1 then bad else if c2 ∧ p2 then bad else rest := by
  by_cases h1 : c1
  · have h2 := h h1
    by_cases h3 : p1 <;> simp [h1, h2, h3]
  · simp [h1]
    by_cases h2 : c2 <;> simp [h2]

theorem lenI_bne {α : Type} (xs : List α) (n : Nat) : (lenI xs != (n : Int)) = true ↔ xs.length ≠ n := by
  rw [bne_iff_ne, lenI, Ne, Int.natCast_inj]

/-- closed form of the translated `AppendBytes` (F27 repair: the data is PEM-normalised first, and
    it is the normalised data `d'` that is looked up and stored; F37 repair: the `switch` on the list's
    type has a second case, externally-managed data is one byte) -/
theorem signature.SignatureList.AppendBytes_eq (E : Ext) (sl : SignatureList) (o : util.EFIGUID)
    (d d' : List UInt8) (hd : d' = normData E sl.SignatureType d) :
    sl.AppendBytes E o d =
      if (⟨o, d'⟩ : SignatureData) ∈ sl.Signatures then (sl, some "ErrSigDataExists") else
      if sl.SignatureType = CERT_SHA256_GUID ∧ d'.length ≠ 32 then (sl, some "errors.New") else
      if sl.SignatureType = CERT_EXTERNAL_MANAGEMENT_GUID ∧ d'.length ≠ 1 then (sl, some "errors.New") else
      if sl.Signatures ≠ [] ∧ UInt32.ofNat d'.length + 16 ≠ sl.Size then (sl, some "ErrSigDataSize") else
      (⟨sl.SignatureType, sl.ListSize + (UInt32.ofNat d'.length + 16), sl.HeaderSize,
        UInt32.ofNat d'.length + 16, sl.SignatureHeader, sl.Signatures ++ [⟨o, d'⟩]⟩, none) := by
  have e32 : (lenI d' != 32) = true ↔ d'.length ≠ 32 := lenI_bne d' 32
  have e1 : (lenI d' != 1) = true ↔ d'.length ≠ 1 := lenI_bne d' 1
  unfold SignatureList.AppendBytes
  simp only [normData_eq, SignatureList.Exists_fst, lenI_ne_zero, util.SizeofEFIGUID, ← hd]
  -- the three cases of the `switch` on the type end in the same size check and update
  have hne : CERT_EXTERNAL_MANAGEMENT_GUID ≠ CERT_SHA256_GUID := by decide
  rw [ite_ite_common fun h1 h2 => hne ((eq_of_beq h2).symm.trans (eq_of_beq h1))]
  simp only [beq_iff_eq, decide_eq_true_eq, e32, e1, Bool.and_eq_true, bne_iff_ne, ne_eq]

/-- what `AppendBytes` can answer: a refusal that leaves the list as it was, or — and then the sizes of
    SHA-256 and externally-managed data are right — success -/
theorem signature.SignatureList.AppendBytes_cases (E : Ext) (sl : SignatureList) (o : util.EFIGUID)
    (d : List UInt8) :
    (∃ e, sl.AppendBytes E o d = (sl, some e)) ∨
    (¬ (sl.SignatureType = CERT_SHA256_GUID ∧ (normData E sl.SignatureType d).length ≠ 32) ∧
     ¬ (sl.SignatureType = CERT_EXTERNAL_MANAGEMENT_GUID ∧ (normData E sl.SignatureType d).length ≠ 1) ∧
     (sl.AppendBytes E o d).2 = none) := by
  rw [SignatureList.AppendBytes_eq E sl o d _ rfl]
  generalize normData E sl.SignatureType d = d'
  by_cases h1 : (⟨o, d'⟩ : SignatureData) ∈ sl.Signatures
  · exact .inl ⟨_, if_pos h1⟩
  rw [if_neg h1]
  by_cases h2 : sl.SignatureType = CERT_SHA256_GUID ∧ d'.length ≠ 32
  · exact .inl ⟨_, if_pos h2⟩
  rw [if_neg h2]
  by_cases h3 : sl.SignatureType = CERT_EXTERNAL_MANAGEMENT_GUID ∧ d'.length ≠ 1
  · exact .inl ⟨_, if_pos h3⟩
  rw [if_neg h3]
  by_cases h4 : sl.Signatures ≠ [] ∧ UInt32.ofNat d'.length + 16 ≠ sl.Size
  · exact .inl ⟨_, if_pos h4⟩
  · exact .inr ⟨h2, h3, by rw [if_neg h4]⟩

theorem signature.SignatureList.AppendBytes_err (E : Ext) (sl : SignatureList) (o : util.EFIGUID)
    (d : List UInt8) (h : (sl.AppendBytes E o d).2.isSome) : (sl.AppendBytes E o d).1 = sl := by
  rcases SignatureList.AppendBytes_cases E sl o d with ⟨e, he⟩ | ⟨_, _, hn⟩
  · rw [he]
  · rw [hn] at h; cases h

theorem signature.SignatureList.AppendSignature_eq (E : Ext) (sl : SignatureList) (s : SignatureData) :
    sl.AppendSignature E s = sl.AppendBytes E s.Owner s.Data := rfl

/-! ### the list loops of `SignatureDatabase.Append` and `Remove` -/

/-- the two `continue` guards in front of the bodies of the list loops of `Append` and `Remove`:
    the type, then the size -/
theorem loop_guards {α : Type} (a x : util.EFIGUID) (s z : UInt32) (skip body : α) :
    (if (!util.CmpEFIGUID a x) = true then skip else if (s != z) = true then skip else body) =
      if a = x ∧ s = z then body else skip := by
  rw [CmpEFIGUID_eq, bne, continue_guards]
  simp only [decide_eq_true_eq, beq_iff_eq]

theorem signature.SignatureDatabase.Append.loop1_cons (E : Ext) (t o : util.EFIGUID) (d : List UInt8)
    (pre : List SignatureList) (l : SignatureList) (rest : List SignatureList) :
    SignatureDatabase.Append.loop1 E t o d pre (l :: rest) =
      if l.SignatureType = t ∧ UInt32.ofNat d.length + 16 = l.Size then
        Loop.ret (pre ++ (l.AppendBytes E o d).1 :: rest, (l.AppendBytes E o d).2)
      else SignatureDatabase.Append.loop1 E t o d (pre ++ [l]) rest := by
  rw [SignatureDatabase.Append.loop1, loop_guards]
  -- both branches on `err != nil` return the same pair
  cases h : (l.AppendBytes E o d).2 <;> simp [SignatureList.AppendSignature_eq, util.SizeofEFIGUID, h]

/-- the list loop of `Append` hands the entry to one list of the type, whose answer takes the list's place,
    or passes every list -/
theorem signature.SignatureDatabase.Append.loop1_cases (E : Ext) (t o : util.EFIGUID) (d : List UInt8)
    (pre ls : List SignatureList) :
    (∃ a l b, ls = a ++ l :: b ∧ l.SignatureType = t ∧ SignatureDatabase.Append.loop1 E t o d pre ls =
        Loop.ret (pre ++ a ++ (l.AppendBytes E o d).1 :: b, (l.AppendBytes E o d).2)) ∨
      SignatureDatabase.Append.loop1 E t o d pre ls = Loop.done (pre ++ ls) := by
  induction ls generalizing pre with
  | nil => exact .inr (by simp [SignatureDatabase.Append.loop1])
  | cons l rest ih =>
    rw [SignatureDatabase.Append.loop1_cons]
    split
    · rename_i hc
      exact .inl ⟨[], l, rest, rfl, hc.1, by simp⟩
    · rcases ih (pre ++ [l]) with ⟨a, x, b, rfl, hx, he⟩ | he
      · exact .inl ⟨l :: a, x, b, rfl, hx, by simp [he]⟩
      · exact .inr (by simp [he])

theorem signature.SignatureDatabase.Remove.loop1_cons (t o : util.EFIGUID) (d : List UInt8)
    (pre : List SignatureList) (l : SignatureList) (rest : List SignatureList) (b : Bool) :
    SignatureDatabase.Remove.loop1 t o d pre (l :: rest) b =
      if l.SignatureType = t ∧ UInt32.ofNat d.length + 16 = l.Size then
        if (⟨o, d⟩ : SignatureData) ∈ l.Signatures then
          if l.Signatures.length = 1 then
            Loop.ret (SignatureDatabase.RemoveList (pre ++ NewSignatureList l.SignatureType :: rest)
              (NewSignatureList l.SignatureType))
          else
            Loop.ret (pre ++ { l with Signatures := l.Signatures.erase ⟨o, d⟩,
                                      ListSize := l.ListSize - l.Size } :: rest, none)
        else SignatureDatabase.Remove.loop1 t o d (pre ++ [l]) rest true
      else SignatureDatabase.Remove.loop1 t o d (pre ++ [l]) rest b := by
  rw [SignatureDatabase.Remove.loop1, loop_guards]
  simp only [util.SizeofEFIGUID, SignatureList.RemoveBytes_eq]
  by_cases hm : (⟨o, d⟩ : SignatureData) ∈ l.Signatures
  · by_cases h1 : l.Signatures.length = 1
    · simp [hm, h1, NewSignatureList, lenI, errIs_none]
    · -- the list keeps an entry, so it is not the emptied one that `RemoveList` would look for
      have hne : (lenI (l.Signatures.erase ⟨o, d⟩) == (0 : Int)) = false := by
        rw [beq_eq_false_iff_ne, lenI, Ne, Int.natCast_eq_zero, List.length_erase_of_mem hm]
        exact Nat.sub_ne_zero_of_lt (Nat.lt_of_le_of_ne (List.length_pos_of_mem hm) (Ne.symm h1))
      simp only [hm, h1, if_true, if_false, hne]
      simp [errIs_none]
  · simp [hm, errIs_notFoundSigData]

/-! ### `SignatureDatabase.Append` and `Remove` around their loops -/

/-- the rest of `SignatureDatabase.Append` after its list loop: a `return` inside the loop is the answer,
    otherwise a new list of the type takes the entry -/
def appendTail (E : Ext) (t o : util.EFIGUID) (d : List UInt8) :
    Loop (SignatureDatabase × GoErr) SignatureDatabase → SignatureDatabase × GoErr
  | Loop.ret r => r
  | Loop.done m =>
    (if ((NewSignatureList t).AppendBytes E o d).2.isSome = true then m
      else m ++ [((NewSignatureList t).AppendBytes E o d).1], ((NewSignatureList t).AppendBytes E o d).2)

theorem signature.SignatureDatabase.Append_eq (E : Ext) (sd : SignatureDatabase) (t o : util.EFIGUID)
    (d : List UInt8) :
    sd.Append E t o d =
      if (ValidEFISignatureSchemes.lookup t).isSome = false then
        (sd, some "ErrNoSuchSignatureScheme")
      else if sd.SigDataExists t ⟨o, normData E t d⟩ = true then (sd, some "ErrSigDataExists")
      else appendTail E t o (normData E t d)
        (SignatureDatabase.Append.loop1 E t o (normData E t d) [] sd) := by
  unfold SignatureDatabase.Append
  have hn : (if util.CmpEFIGUID t CERT_X509_GUID = true then
      (if (!(E.pemDecode d).1.isNil) = true then (E.pemDecode d).1.Bytes else d) else d)
      = normData E t d := by
    rw [CmpEFIGUID_eq, ← normData_eq]
    simp
  simp only [hn, SignatureDatabase.BytesExists]
  cases h1 : (ValidEFISignatureSchemes.lookup t).isSome
  · simp
  · simp only [Bool.not_true, Bool.false_eq_true, if_false, Bool.true_eq_false]
    by_cases h2 : sd.SigDataExists t ⟨o, normData E t d⟩ = true
    · rw [if_pos h2, if_pos h2]
    · rw [if_neg h2, if_neg h2]
      cases SignatureDatabase.Append.loop1 E t o (normData E t d) [] sd with
      | ret r => rfl
      | done m =>
        cases h3 : ((NewSignatureList t).AppendBytes E o (normData E t d)).2 <;> simp [appendTail, h3]

theorem signature.SignatureDatabase.Append_err (E : Ext) (sd : SignatureDatabase) (t o : util.EFIGUID)
    (d : List UInt8) (h : (sd.Append E t o d).2.isSome = true) : (sd.Append E t o d).1 = sd := by
  rw [SignatureDatabase.Append_eq] at h ⊢
  split
  · rfl
  split
  · rfl
  · rename_i h1 h2
    rw [if_neg h1, if_neg h2] at h
    rcases SignatureDatabase.Append.loop1_cases E t o (normData E t d) [] sd with ⟨a, l, b, rfl, _, he⟩ | he
    · rw [he] at h ⊢
      show [] ++ a ++ (l.AppendBytes E o (normData E t d)).1 :: b = a ++ l :: b
      rw [SignatureList.AppendBytes_err E l o _ h, List.nil_append]
    · rw [he] at h ⊢
      exact (if_pos h).trans (List.nil_append sd)

/-- the rest of `SignatureDatabase.Remove` after its list loop -/
def rmTail : Loop (SignatureDatabase × GoErr) (SignatureDatabase × Bool) → SignatureDatabase × GoErr
  | Loop.ret r => r
  | Loop.done m =>
    if m.2 = true then (m.1, some "ErrNotFoundSigData") else (m.1, some "ErrNotFoundSigList")

theorem signature.SignatureDatabase.Remove_eq (sd : SignatureDatabase) (t o : util.EFIGUID)
    (d : List UInt8) : sd.Remove t o d = rmTail (SignatureDatabase.Remove.loop1 t o d [] sd false) := by
  unfold SignatureDatabase.Remove rmTail
  dsimp only
  cases SignatureDatabase.Remove.loop1 t o d [] sd false <;> rfl

end GoUefi.Gen

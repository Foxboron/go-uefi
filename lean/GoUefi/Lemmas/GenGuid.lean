import GoUefi.Gen
/-!
  The translated `util.CmpEFIGUID` (efi/util/guid.go) is equality of GUID values: `CmpEFIGUID_iff`, and
  `CmpEFIGUID_eq` for rewriting.  Nothing else: imported where the comparison is used (`Lemmas/GenSigDb.lean`,
  `Properties/C17g.lean`).
-/
namespace GoUefi.GenGuid
open GoUefi.Gen

/-- `util.CmpEFIGUID` compares the four fields: it is equality of the values.  (Proved so that it survives the usual
    rewrites of the Go function: a field-wise `&&` chain, struct `==`.) -/
theorem CmpEFIGUID_iff (a b : util.EFIGUID) : util.CmpEFIGUID a b = true ↔ a = b := by
  cases a; cases b
  set_option linter.unusedSimpArgs false in
  simp [util.CmpEFIGUID, and_assoc]

theorem CmpEFIGUID_eq (a b : util.EFIGUID) : util.CmpEFIGUID a b = decide (a = b) := by
  rw [Bool.eq_iff_iff, CmpEFIGUID_iff]; simp

end GoUefi.GenGuid

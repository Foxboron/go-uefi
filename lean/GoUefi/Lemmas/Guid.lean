import GoUefi.Model.Guid
import GoUefi.Lemmas.Bytes
/- The three forms of an EFIGUID (`Model/Guid.lean`): the text form read back in either case of its digits, the
   big-endian byte form and the little-endian wire form against their readers, and that every reader returns a
   well-formed value -/
namespace GoUefi

def isLowerHex (c : Char) : Bool := ('0' ≤ c ∧ c ≤ '9') ∨ ('a' ≤ c ∧ c ≤ 'f')

theorem hexVal_hexDigit : ∀ k, k < 16 → hexVal (hexDigit k) = some k := by decide
theorem hexVal_upper_hexDigit : ∀ k, k < 16 → hexVal (upperChar (hexDigit k)) = some k := by decide
theorem hexDigit_lower : ∀ k, k < 16 → isLowerHex (hexDigit k) = true := by decide
theorem hexDigit_ne_dash : ∀ k, k < 16 → hexDigit k ≠ '-' := by decide
theorem upper_hexDigit_ne_dash : ∀ k, k < 16 → upperChar (hexDigit k) ≠ '-' := by decide

theorem byte_recombine (b : UInt8) : (16 * (b.toNat / 16) + b.toNat % 16).toUInt8 = b := by
  rw [Nat.div_add_mod]; exact toNat_toUInt8 b

@[simp] theorem hexBytes_length (bs : Bytes) : (hexBytes bs).length = 2 * bs.length := by
  rw [hexBytes, List.flatMap_def, length_flatten_map _ bs (n := 2) (fun _ _ => rfl), Nat.mul_comm]

theorem hexBytes_cons (b : UInt8) (bs : Bytes) :
    hexBytes (b :: bs) = hexDigit (b.toNat / 16) :: hexDigit (b.toNat % 16) :: hexBytes bs := by
  simp [hexBytes]

theorem hexBytes_append (a b : Bytes) : hexBytes (a ++ b) = hexBytes a ++ hexBytes b := by
  simp [hexBytes]

theorem hexBytes_forall (P : Char → Prop) (hP : ∀ k, k < 16 → P (hexDigit k)) (bs : Bytes) :
    ∀ c ∈ hexBytes bs, P c := by
  intro c hc
  obtain ⟨b, _, hb⟩ := List.mem_flatMap.mp hc
  simp only [List.mem_cons, List.not_mem_nil, or_false] at hb
  rcases hb with rfl | rfl
  · exact hP _ (Nat.div_lt_of_lt_mul b.toNat_lt)
  · exact hP _ (Nat.mod_lt _ (by decide))

/-- decoding the digits of `bs`, written in any way that `hexVal` reads back (lower case: `f = id`, upper case:
    `f = upperChar`), gives `bs` -/
theorem decodeHex_map_hexBytes (f : Char → Char) (hf : ∀ k, k < 16 → hexVal (f (hexDigit k)) = some k)
    (bs : Bytes) (rest : List Char) :
    decodeHex ((hexBytes bs).map f ++ rest) = bs ++ decodeHex rest := by
  induction bs with
  | nil => simp [hexBytes]
  | cons b bs ih =>
    have h1 := hf (b.toNat / 16) (Nat.div_lt_of_lt_mul b.toNat_lt)
    have h2 := hf (b.toNat % 16) (Nat.mod_lt _ (by decide))
    rw [hexBytes_cons]
    simp only [List.map_cons, List.cons_append, decodeHex, h1, h2, ih, byte_recombine]

theorem decodeHex_length_le : ∀ s : List Char, 2 * (decodeHex s).length ≤ s.length
  | [] => Nat.le_refl 0
  | [_] => Nat.zero_le 1
  | a :: b :: r => by
    have ih := decodeHex_length_le r
    rw [decodeHex]
    split
    · simp only [List.length_cons]
      omega
    · exact Nat.zero_le _

theorem filter_dash_map_hexBytes (f : Char → Char) (hf : ∀ k, k < 16 → f (hexDigit k) ≠ '-') (bs : Bytes) :
    ((hexBytes bs).map f).filter (· ≠ '-') = (hexBytes bs).map f := by
  rw [List.filter_eq_self]
  intro c hc
  rw [List.mem_map] at hc
  obtain ⟨d, hd, rfl⟩ := hc
  have := hexBytes_forall (fun c => f c ≠ '-') hf bs d hd
  simpa using this

theorem filter_format_map (f : Char → Char) (hf : ∀ k, k < 16 → f (hexDigit k) ≠ '-') (hd : f '-' = '-') (g : Guid) :
    (g.format.map f).filter (· ≠ '-') = (hexBytes (guidToBytes g)).map f := by
  -- `Guid.format` prints `Data4` in two pieces
  rw [guidToBytes, ← List.take_append_drop 2 g.d4]
  simp only [Guid.format, List.map_append, List.map_cons, List.filter_append, List.filter_cons,
    filter_dash_map_hexBytes f hf, hexBytes_append, hd]
  simp

theorem bytesToGuid_guidToBytes (g : Guid) (h : g.WF) : bytesToGuid (guidToBytes g) = g := by
  obtain ⟨h1, h2, h3, h4⟩ := h
  have hl : (guidToBytes g).length = 16 := by simp [guidToBytes, h4]
  unfold bytesToGuid
  rw [if_neg (Nat.not_lt.2 (Nat.le_of_eq hl.symm))]
  obtain ⟨e1, e2, e3, e4⟩ := split4 (be32 g.d1) (be16 g.d2) (be16 g.d3) g.d4 rfl rfl rfl
  unfold guidToBytes
  rw [e1, e2, e3, e4, rdBe32_be32 _ h1, rdBe16_be16 _ h2, rdBe16_be16 _ h3, List.take_of_length_le (Nat.le_of_eq h4)]

theorem guidToBytes_bytesToGuid (bs : Bytes) (h : bs.length = 16) : guidToBytes (bytesToGuid bs) = bs := by
  obtain ⟨l1, l2, l3⟩ := join4_lengths bs (Nat.le_of_eq h.symm)
  unfold bytesToGuid
  rw [if_neg (Nat.not_lt.2 (Nat.le_of_eq h.symm))]
  simp only [guidToBytes]
  rw [be32_rdBe32 _ l1, be16_rdBe16 _ l2, be16_rdBe16 _ l3, join4 bs h]

theorem stringToGuid_format_map (f : Char → Char) (hv : ∀ k, k < 16 → hexVal (f (hexDigit k)) = some k)
    (hf : ∀ k, k < 16 → f (hexDigit k) ≠ '-') (hd : f '-' = '-') (g : Guid) (h : g.WF) :
    stringToGuid (g.format.map f) = g := by
  have := decodeHex_map_hexBytes f hv (guidToBytes g) []
  rw [List.append_nil] at this
  unfold stringToGuid
  rw [filter_format_map f hf hd, this]
  simp only [decodeHex, List.append_nil]
  exact bytesToGuid_guidToBytes g h

theorem guidOfWire_guidWire (g : Guid) (h : g.WF) : guidOfWire (guidWire g) = g := by
  obtain ⟨h1, h2, h3, h4⟩ := h
  obtain ⟨e1, e2, e3, e4⟩ := split4 (le32 g.d1) (le16 g.d2) (le16 g.d3) g.d4 rfl rfl rfl
  unfold guidOfWire guidWire
  rw [e1, e2, e3, e4, rd32_le32 _ h1, rd16_le16 _ h2, rd16_le16 _ h3, List.take_of_length_le (Nat.le_of_eq h4)]

theorem guidWire_guidOfWire (bs : Bytes) (h : bs.length = 16) : guidWire (guidOfWire bs) = bs := by
  obtain ⟨l1, l2, l3⟩ := join4_lengths bs (Nat.le_of_eq h.symm)
  simp only [guidOfWire, guidWire]
  rw [le32_rd32 _ l1, le16_rd16 _ l2, le16_rd16 _ l3, join4 bs h]

theorem guidOfWire_wf (sig : Bytes) (h : sig.length = 16) : (guidOfWire sig).WF :=
  ⟨rd32_lt _, rd16_lt _, rd16_lt _, by simp [guidOfWire]; omega⟩

theorem bytesToGuid_wf (bs : Bytes) : (bytesToGuid bs).WF := by
  unfold bytesToGuid
  split
  · decide
  · exact ⟨rdBe32_lt _, rdBe16_lt _, rdBe16_lt _, by rw [List.length_take, List.length_drop]; omega⟩

theorem stringToGuid_wf (s : List Char) : (stringToGuid s).WF := bytesToGuid_wf _

end GoUefi

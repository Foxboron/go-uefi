import GoUefi.Lemmas.Utf16
/- `parseUtf16` succeeds only on input that ends with an aligned NUL terminator (C17b): the last decoded character is
   NUL only if the last code unit is 0, and only if no single byte is left over -/
namespace GoUefi

theorem charOfNat_ne_nul (n : Nat) (h0 : n ≠ 0) (hv : n.isValidChar) : Char.ofNat n ≠ '\x00' := by
  intro h
  have h1 := congrArg Char.toNat h
  rw [toNat_ofNat_valid n hv] at h1
  exact h0 h1

theorem fffd_ne_nul : Char.ofNat 0xFFFD ≠ '\x00' := by decide

theorem utf16dec_eq_nil {us : List Nat} (h : utf16dec us = []) : us = [] := by
  match us with
  | [] => rfl
  | [u] => simp [utf16dec] at h
  | u :: v :: rest =>
    unfold utf16dec at h
    split at h
    · split at h <;> simp at h
    · simp at h

/-- behind a first character the last one comes from the units that are left, when there are any -/
theorem utf16dec_last_tail {c : Char} {tl : List Nat} (hne : tl ≠ [])
    (h : (c :: utf16dec tl).getLast? = some '\x00') : (utf16dec tl).getLast? = some '\x00' := by
  rwa [List.getLast?_cons_of_ne_nil fun e => hne (utf16dec_eq_nil e)] at h

theorem utf16dec_last_nul (us : List Nat) (hlt : ∀ u ∈ us, u < 65536)
    (h : (utf16dec us).getLast? = some '\x00') : us.getLast? = some 0 := by
  induction us using utf16dec.induct with
  | case1 => simp [utf16dec] at h
  | case2 u =>
    have hu := hlt u (by simp)
    simp only [utf16dec, List.getLast?_singleton, Option.some.injEq] at h
    split at h
    · exact absurd h fffd_ne_nul
    · rename_i hs
      by_cases h0 : u = 0
      · simp [h0]
      · exact absurd h (charOfNat_ne_nul u h0 (by unfold Nat.isValidChar; omega))
  | case3 u v rest hs hl ih =>
    -- surrogate followed by a low surrogate: two units are consumed
    have hlt' : ∀ x ∈ rest, x < 65536 := fun x hx => hlt x (by simp [hx])
    unfold utf16dec at h
    rw [if_pos hs, if_pos hl] at h
    by_cases hr : rest = []
    · subst hr
      simp only [utf16dec, List.getLast?_singleton, Option.some.injEq] at h
      split at h
      · rename_i hu
        exact absurd h (charOfNat_ne_nul _ (by omega) (by unfold Nat.isValidChar; omega))
      · exact absurd h fffd_ne_nul
    · rw [List.getLast?_cons_cons, List.getLast?_cons_of_ne_nil hr]
      exact ih hlt' (utf16dec_last_tail hr h)
  | case4 u v rest hs hl ih =>
    have hlt' : ∀ x ∈ v :: rest, x < 65536 := fun x hx => hlt x (by simp [hx])
    unfold utf16dec at h
    rw [if_pos hs, if_neg hl] at h
    rw [List.getLast?_cons_cons]
    exact ih hlt' (utf16dec_last_tail (by simp) h)
  | case5 u v rest hs ih =>
    have hlt' : ∀ x ∈ v :: rest, x < 65536 := fun x hx => hlt x (by simp [hx])
    unfold utf16dec at h
    rw [if_neg hs] at h
    rw [List.getLast?_cons_cons]
    exact ih hlt' (utf16dec_last_tail (by simp) h)

theorem parseUtf16_ok_last {bs : Bytes} (h : parseUtf16 bs ≠ .err) :
    (decodeUtf16Bytes bs).getLast? = some '\x00' := by
  unfold parseUtf16 at h
  simp only at h
  split at h
  · exact absurd rfl h
  · rename_i c hc
    split at h
    · exact absurd rfl h
    · rename_i hne
      rw [hc, Decidable.not_not.mp hne]

/-- a successful (more precisely: non-error) `parseUtf16` needs an aligned terminator -/
theorem parseUtf16_terminated {bs : Bytes} (h : parseUtf16 bs ≠ .err) :
    ∃ p, bs = p ++ [0, 0] ∧ p.length % 2 = 0 := by
  have hl := parseUtf16_ok_last h
  unfold decodeUtf16Bytes at hl
  simp only at hl
  cases hodd : (bytesToUnits bs).2 with
  | true =>
    rw [hodd] at hl
    simp only [if_true, List.getLast?_append, List.getLast?_singleton, Option.some_or,
      Option.some.injEq] at hl
    exact absurd hl fffd_ne_nul
  | false =>
    rw [hodd] at hl
    simp only [Bool.false_eq_true, if_false, List.append_nil] at hl
    -- the units end with 0, and `bs` is their encoding
    obtain ⟨q, hq⟩ := List.getLast?_eq_some_iff.mp (utf16dec_last_nul _ (bytesToUnits_lt bs) hl)
    refine ⟨unitsToBytes q, ?_, by rw [unitsToBytes_length]; omega⟩
    rw [← unitsToBytes_bytesToUnits bs hodd, hq, unitsToBytes_append]
    rfl

end GoUefi

import GoUefi.Model.Pkcs7
import GoUefi.Spec.Cms
import GoUefi.Lemmas.DerInv
import GoUefi.Lemmas.Outcome
/-!
  `PKCS7.Verify` and `ParsePKCS7` (`GoUefi/Model/Pkcs7.lean`), for C04, C16, C13 and C02:

  * every outcome of `Signer.verify` (`Signer.verify_range`, `Signer.verify_ok_true_iff`) and of
    `verifySigners`, where the first signer naming the certificate decides;
  * inversion of the parser, `parseAttr` … `parseP7`: which reader calls succeeded on which slices;
    parsed attributes always carry `raw`, and `raw` is the transmitted `[0]` element with its tag
    byte replaced (`parseP7_attrs`);
  * the two loops give one answer from half the length of their input on, whatever the fuel;
  * the relation to the independent specification: where `parseP7` succeeds so does
    `Spec.parseSignedData`, with corresponding signers (`SignersRel`), and what `Verify` accepts
    `Spec.cmsVerify` accepts;
  * `Canon`, the transmitted attribute body being what `Marshal` would write (C16);
  * the sample blobs of the examples of C04 and C16.
-/
namespace GoUefi.Impl
open GoUefi GoUefi.Der

/-- `split` the outermost `match` of a parser hypothesis and discharge the failing branch -/
local macro "step " h:ident : tactic =>
  `(tactic| (split at $h:ident <;> try (simp at $h:ident; done)))

/-! ### `Signer.verify` -/

/-- the messageDigest check of `signerinfo.verify` -/
def mdOkB (C : Crypto) (content : Bytes) (a : Attrs) : Bool :=
  if content.length > 0 then
    match readAny content with
    | some (_, val, _) => C.sha256 val == a.md
    | none => false
  else true

/-- the bytes the signature is verified over -/
def sigData (a : Attrs) : Outcome Bytes :=
  match a.raw with | some r => Outcome.ok r | none => a.marshal

theorem Signer.verify_def (C : Crypto) (s : Signer) (c : Cert) (content : Bytes) :
    s.verify C c content =
      match s.attrs with
      | none => .err
      | some a =>
        if !mdOkB C content a then .err else
        match sigData a with
        | .ok sigdata => if C.rsaVerify c.pub sigdata s.sig then .ok true else .err
        | .err => .err
        | .panic => .panic
        | .exit => .exit := rfl

theorem mdOkB_iff {C : Crypto} {content : Bytes} {a : Attrs} :
    mdOkB C content a = true ↔
      (content ≠ [] → ∃ t v r, readAny content = some (t, v, r) ∧ C.sha256 v = a.md) := by
  unfold mdOkB
  cases content with
  | nil => exact ⟨fun _ h => (h rfl).elim, fun _ => rfl⟩
  | cons x xs =>
    simp only [List.length_cons, Nat.zero_lt_succ, gt_iff_lt, if_true, ne_eq, reduceCtorEq,
      not_false_eq_true, forall_const]
    cases readAny (x :: xs) with
    | none => exact ⟨nofun, fun ⟨_, _, _, h, _⟩ => nomatch h⟩
    | some p =>
      obtain ⟨t, v, r⟩ := p
      simp only [Option.some.injEq, Prod.mk.injEq, beq_iff_eq]
      constructor
      · intro h; exact ⟨t, v, r, ⟨rfl, rfl, rfl⟩, h⟩
      · rintro ⟨_, _, _, ⟨rfl, rfl, rfl⟩, h⟩; exact h

theorem sigData_ok_iff {a : Attrs} {d : Bytes} :
    sigData a = .ok d ↔ (a.raw = some d ∨ (a.raw = none ∧ a.marshal = .ok d)) := by
  unfold sigData
  cases a.raw with
  | none => simp
  | some r => simp

theorem sigData_cases (a : Attrs) :
    (∃ d, sigData a = .ok d) ∨ (sigData a = .panic ∧ a.raw = none ∧ attrsBody a = none) := by
  unfold sigData Attrs.marshal
  cases a.raw with
  | some r => exact Or.inl ⟨r, rfl⟩
  | none =>
    cases attrsBody a with
    | some b => exact Or.inl ⟨_, rfl⟩
    | none => exact Or.inr ⟨rfl, rfl, rfl⟩

/-- `signerinfo.verify` answers `true` exactly when the signer carries signed attributes, the RSA
    signature over them (as transmitted, or re-encoded when constructed locally) is valid, and the
    messageDigest attribute matches the encapsulated content. -/
theorem Signer.verify_ok_true_iff {C : Crypto} {s : Signer} {c : Cert} {content : Bytes} :
    s.verify C c content = .ok true ↔
      ∃ a, s.attrs = some a ∧
        (∃ sigdata, (a.raw = some sigdata ∨ (a.raw = none ∧ a.marshal = .ok sigdata)) ∧
          C.rsaVerify c.pub sigdata s.sig = true) ∧
        (content ≠ [] → ∃ t v r, readAny content = some (t, v, r) ∧ C.sha256 v = a.md) := by
  rw [Signer.verify_def]
  cases hs : s.attrs with
  | none => exact ⟨nofun, fun ⟨_, h, _⟩ => nomatch h⟩
  | some a =>
    simp only [Option.some.injEq, exists_eq_left']
    rw [← mdOkB_iff]
    cases hm : mdOkB C content a with
    | false => simp
    | true =>
      simp only [Bool.not_true, Bool.false_eq_true, if_false, and_true, ← sigData_ok_iff]
      cases sigData a with
      | ok d => simp
      | err | panic | exit => simp

/-- `signerinfo.verify` ends in one of three ways; the only way to panic: locally constructed
    attributes (no `raw`) with an invalid OID -/
theorem Signer.verify_range (C : Crypto) (s : Signer) (c : Cert) (content : Bytes) :
    s.verify C c content = .ok true ∨ s.verify C c content = .err ∨
      (s.verify C c content = .panic ∧ ∃ a, s.attrs = some a ∧ a.raw = none ∧ attrsBody a = none) := by
  rw [Signer.verify_def]
  cases s.attrs with
  | none => exact .inr (.inl rfl)
  | some a =>
    simp only []
    cases mdOkB C content a with
    | false => exact .inr (.inl rfl)
    | true =>
      rcases sigData_cases a with ⟨d, hd⟩ | ⟨hp, h1, h2⟩
      · rw [hd]
        simp only [Bool.not_true, Bool.false_eq_true, if_false]
        split
        · exact .inl rfl
        · exact .inr (.inl rfl)
      · rw [hp]; exact .inr (.inr ⟨rfl, a, rfl, h1, h2⟩)

theorem Signer.verify_ne_ok_false (C : Crypto) (s : Signer) (c : Cert) (content : Bytes) :
    s.verify C c content ≠ .ok false := by
  rcases Signer.verify_range C s c content with h | h | ⟨h, _⟩ <;> rw [h] <;> simp

theorem Signer.verify_no_attrs {C : Crypto} {s : Signer} {c : Cert} {content : Bytes}
    (h : s.attrs = none) : s.verify C c content = .err := by
  rw [Signer.verify_def, h]

theorem Signer.verify_bad_digest {C : Crypto} {s : Signer} {c : Cert} {content : Bytes} {a : Attrs}
    (ha : s.attrs = some a) (hne : content ≠ [])
    (hbad : ∀ t v r, readAny content = some (t, v, r) → C.sha256 v ≠ a.md) :
    s.verify C c content = .err := by
  rw [Signer.verify_def, ha]
  have : mdOkB C content a = false := Bool.eq_false_iff.mpr fun hm => by
    obtain ⟨t, v, r, h1, h2⟩ := mdOkB_iff.mp hm hne
    exact hbad t v r h1 h2
  simp [this]

theorem Signer.verify_bad_signature {C : Crypto} {s : Signer} {c : Cert} {content : Bytes}
    {a : Attrs} {sigdata : Bytes} (ha : s.attrs = some a)
    (hd : a.raw = some sigdata ∨ (a.raw = none ∧ a.marshal = .ok sigdata))
    (hbad : C.rsaVerify c.pub sigdata s.sig = false) :
    s.verify C c content = .err := by
  rw [Signer.verify_def, ha]
  simp only []
  cases mdOkB C content a with
  | false => simp
  | true => simp [sigData_ok_iff.mpr hd, hbad]

/-- the verdict of a signer depends on its attributes only through `raw` and `md`
    (when `raw` is present, which is always the case after parsing) -/
theorem Signer.verify_congr {C : Crypto} {s s' : Signer} {c : Cert} {content : Bytes}
    {a a' : Attrs} {r : Bytes} (ha : s.attrs = some a) (ha' : s'.attrs = some a')
    (hr : a.raw = some r) (hr' : a'.raw = some r) (hmd : a'.md = a.md) (hsig : s'.sig = s.sig) :
    s'.verify C c content = s.verify C c content := by
  rw [Signer.verify_def, Signer.verify_def, ha, ha']
  have h1 : mdOkB C content a' = mdOkB C content a := by simp [mdOkB, hmd]
  have h2 : sigData a' = sigData a := by simp [sigData, hr, hr']
  simp only [h1, h2, hsig]

/-! ### `verifySigners` -/

/-- `PKCS7.Verify`: the first signer naming the certificate decides, alone -/
theorem verifySigners_eq_find (C : Crypto) (c : Cert) (content : Bytes) (ss : List Signer) :
    verifySigners C c content ss =
      match ss.find? (fun s => s.isCertificate c) with
      | none => .ok false
      | some s => s.verify C c content := by
  induction ss with
  | nil => rfl
  | cons s ss ih =>
    simp only [verifySigners, List.find?_cons]
    cases hs : s.isCertificate c with
    | true => simp
    | false => simp [ih]

theorem isCertificate_iff {s : Signer} {c : Cert} :
    s.isCertificate c = true ↔ s.issuer = c.rawIssuer ∧ s.serial = c.serial := by
  simp [Signer.isCertificate]

theorem verifySigners_ok_false_iff {C : Crypto} {c : Cert} {content : Bytes} {ss : List Signer} :
    verifySigners C c content ss = .ok false ↔ ∀ s ∈ ss, s.isCertificate c = false := by
  have hn : ss.find? (fun s => s.isCertificate c) = none ↔ ∀ s ∈ ss, s.isCertificate c = false := by
    simp
  rw [verifySigners_eq_find, ← hn]
  cases hf : ss.find? (fun s => s.isCertificate c) with
  | none => simp
  | some s => simp [Signer.verify_ne_ok_false]

theorem P7.verify_cases (C : Crypto) (p : P7) (c : Cert) :
    p.verify C c = .ok false ∨
      ∃ s ∈ p.signers, s.isCertificate c = true ∧ p.verify C c = s.verify C c p.content := by
  unfold P7.verify
  rw [verifySigners_eq_find]
  cases hf : p.signers.find? (fun s => s.isCertificate c) with
  | none => exact .inl rfl
  | some s =>
    exact .inr ⟨s, List.mem_of_find?_eq_some hf,
      List.find?_some (p := fun s : Signer => s.isCertificate c) hf, rfl⟩

theorem P7.verify_ne_exit (C : Crypto) (p : P7) (c : Cert) : p.verify C c ≠ .exit := by
  rcases P7.verify_cases C p c with e | ⟨s, _, _, e⟩
  · rw [e]; simp
  · rcases Signer.verify_range C s c p.content with h | h | ⟨h, _⟩ <;> rw [e, h] <;> simp

theorem P7.verify_panic {C : Crypto} {p : P7} {c : Cert} (h : p.verify C c = .panic) :
    ∃ s ∈ p.signers, ∃ a, s.attrs = some a ∧ a.raw = none ∧ attrsBody a = none := by
  rcases P7.verify_cases C p c with e | ⟨s, hs, _, e⟩
  · rw [e] at h; cases h
  · rw [e] at h
    rcases Signer.verify_range C s c p.content with e' | e' | ⟨_, w⟩
    · rw [e'] at h; cases h
    · rw [e'] at h; cases h
    · exact ⟨s, hs, w⟩

/-! ### inversion of the parser -/

theorem parseAlg_inv {s : Bytes} {o : List Nat} {rest : Bytes} (h : parseAlg s = some (o, rest)) :
    ∃ b r, read tSEQ s = some (b, rest) ∧ readOID b = some (o, r) := by
  unfold parseAlg at h
  -- the failing branch by `cases`: `step` also runs `simp` on all of `h` in the branch that goes on, slow while `h` is large
  split at h
  · cases h
  rename_i b rest' h1
  split at h
  · cases h
  rename_i o' r h2
  split at h
  · cases h; exact ⟨b, r, h1, h2⟩
  · step h
    cases h; exact ⟨b, r, h1, h2⟩

theorem parseAttr_inv {s : Bytes} {a a' : Attrs} {rest : Bytes}
    (h : parseAttr s a = some (a', rest)) :
    ∃ el oid r1 set r1', read tSEQ s = some (el, rest) ∧ readOID el = some (oid, r1) ∧
      read tSET r1 = some (set, r1') ∧ a'.raw = a.raw ∧
      (if oid == oidMessageDigest then ∃ d r, read tOCT set = some (d, r) ∧ a'.md = d
       else a'.md = a.md) := by
  unfold parseAttr at h
  split at h
  · cases h
  rename_i el rest' h1
  split at h
  · cases h
  rename_i oid r1 h2
  split at h
  · cases h
  rename_i set r1' h3
  refine ⟨el, oid, r1, set, r1', ?_⟩
  -- `by_cases` and `rw`: `split at h` is slow on a term of this size
  by_cases hmd : (oid == oidMessageDigest) = true
  · rw [if_pos hmd] at h ⊢
    step h
    rename_i d r h4
    cases h
    exact ⟨h1, h2, h3, rfl, d, r, h4, rfl⟩
  · rw [if_neg hmd] at h ⊢
    -- the other three kinds of attribute set a field other than `raw` and `md`
    by_cases hct : (oid == oidContentType) = true
    · rw [if_pos hct] at h
      step h
      cases h
      exact ⟨h1, h2, h3, rfl, rfl⟩
    · rw [if_neg hct] at h
      by_cases hst : (oid == oidSigningTime) = true
      · rw [if_pos hst] at h
        step h
        step h
        cases h
        exact ⟨h1, h2, h3, rfl, rfl⟩
      · rw [if_neg hst] at h
        cases h
        exact ⟨h1, h2, h3, rfl, rfl⟩

theorem attrLoop_raw {f : Nat} {s : Bytes} {a0 a : Attrs} (h : attrLoop f s a0 = some a) :
    a.raw = a0.raw := by
  induction f generalizing s a0 with
  | zero =>
    cases s with
    | nil => cases h; rfl
    | cons b bs => cases h
  | succ f ih =>
    cases s with
    | nil => cases h; rfl
    | cons b bs =>
      simp only [attrLoop, List.isEmpty_cons, Bool.false_eq_true, if_false] at h
      step h
      rename_i a' rest hp
      obtain ⟨_, _, _, _, _, _, _, _, hraw, _⟩ := parseAttr_inv hp
      rw [ih h, hraw]

theorem parseAttrs_inv {s : Bytes} {oa : Option Attrs} {rest : Bytes}
    (h : parseAttrs s = some (oa, rest)) :
    (oa = none ∧ rest = s ∧ peek tCtx0 s = false) ∨
    (∃ body a, oa = some a ∧ peek tCtx0 s = true ∧ read tCtx0 s = some (body, rest) ∧
      attrLoop body.length body { raw := some (addASN1 tSET body) } = some a ∧
      a.raw = some (addASN1 tSET body)) := by
  unfold parseAttrs at h
  split at h
  · cases h
  · rename_i rest' ho
    cases h
    rcases readOptional_inv ho with ⟨_, h2, h3⟩ | ⟨_, h1, _⟩
    · exact Or.inl ⟨rfl, h2, h3⟩
    · cases h1
  · rename_i b rest' ho
    step h
    rename_i a hl
    cases h
    rcases readOptional_inv ho with ⟨h1, _⟩ | ⟨body, h1, hp, hr, _⟩
    · cases h1
    · cases h1
      exact Or.inr ⟨b, a, rfl, hp, hr, hl, attrLoop_raw hl⟩

/-- `parseSignerInfos` succeeds exactly when each of its reads does, one after the other. From
    left to right this says which reads succeeded on an accepted input; from right to left it
    turns what the primitive readers return on the fields the builder wrote into the parser's
    answer. -/
theorem parseSigner_eq_some {s : Bytes} {x : Signer} {rest : Bytes} :
    parseSigner s = some (x, rest) ↔
    ∃ si r1 ias r2 i1 i2 r3 r4 r5 r6 o1 o2,
      read tSEQ s = some (si, rest) ∧ readInt64 si = some (x.version, r1) ∧
      read tSEQ r1 = some (ias, r2) ∧ readElement tSEQ ias = some (x.issuer, i1) ∧
      readBigInt i1 = some (x.serial, i2) ∧ parseAlg r2 = some (o1, r3) ∧
      parseAttrs r3 = some (x.attrs, r4) ∧ parseAlg r4 = some (o2, r5) ∧
      read tOCT r5 = some (x.sig, r6) := by
  constructor
  case mpr =>
    rintro ⟨_, _, _, _, _, _, _, _, _, _, _, _, h1, h2, h3, h4, h5, h6, h7, h8, h9⟩
    unfold parseSigner
    simp only [h1, h2, h3, h4, h5, h6, h7, h8, h9]
  intro h
  unfold parseSigner at h
  step h
  rename_i si rest' h1
  step h
  rename_i ver r1 h2
  step h
  rename_i ias r2 h3
  step h
  rename_i issuer i1 h4
  step h
  rename_i serial i2 h5
  step h
  rename_i o1 r3 h6
  step h
  rename_i attrs r4 h7
  step h
  rename_i o2 r5 h8
  step h
  rename_i sig r6 h9
  cases h
  exact ⟨si, r1, ias, r2, i1, i2, r3, r4, r5, r6, o1, o2, h1, h2, h3, h4, h5, h6, h7, h8, h9⟩

theorem signerLoop_mem {f : Nat} {s : Bytes} {xs : List Signer} (h : signerLoop f s = some xs)
    {x : Signer} (hx : x ∈ xs) : ∃ s' rest, Sub s' s ∧ parseSigner s' = some (x, rest) := by
  induction f generalizing s xs with
  | zero =>
    cases s with
    | nil => cases h; cases hx
    | cons b bs => cases h
  | succ f ih =>
    cases s with
    | nil => cases h; cases hx
    | cons b bs =>
      simp only [signerLoop, List.isEmpty_cons, Bool.false_eq_true, if_false] at h
      step h
      rename_i y rest hp
      step h
      rename_i ys hl
      cases h
      rcases List.mem_cons.mp hx with rfl | hmem
      · exact ⟨_, rest, Sub.refl _, hp⟩
      · obtain ⟨s', rest', hsub, hp'⟩ := ih hl hmem
        obtain ⟨si, _, _, _, _, _, _, _, _, _, _, _, h1, _⟩ := parseSigner_eq_some.mp hp
        exact ⟨s', rest', hsub.trans (read_sub h1).2.1, hp'⟩

theorem parseContentInfo_inv {s : Bytes} {oid : List Nat} {content rest : Bytes}
    (h : parseContentInfo s = some (oid, content, rest)) :
    ∃ b r1 c, read tSEQ s = some (b, rest) ∧ readOID b = some (oid, r1) ∧
      readOptional tCtx0 r1 = some (c, []) ∧ content = c.getD [] := by
  unfold parseContentInfo at h
  split at h
  · cases h
  rename_i b rest' h1
  split at h
  · cases h
  rename_i oid' r1 h2
  split at h
  · cases h
  rename_i c r2 h3
  split at h
  · rename_i he
    cases h
    have : r2 = [] := by simpa using he
    subst this
    exact ⟨b, r1, c, h1, h2, h3, rfl⟩
  · cases h

theorem parseContentInfo_sub {s : Bytes} {oid : List Nat} {content rest : Bytes}
    (h : parseContentInfo s = some (oid, content, rest)) : Sub content s ∧ Sub rest s := by
  obtain ⟨b, r1, c, h1, h2, h3, rfl⟩ := parseContentInfo_inv h
  exact ⟨((readOptional_getD_sub h3).trans (readOID_sub h2)).trans (read_sub h1).1, (read_sub h1).2.1⟩

theorem parseHead_inv {b : Bytes} {oid : List Nat} {content r3 : Bytes}
    (h : parseHead b = some (oid, content, r3)) :
    ∃ chk x inner sd y v r1 dig r2 o z,
      read tSEQ b = some (chk, x) ∧
      ((peek tOID chk = true ∧ ∃ oid' r, parseContentInfo b = some (oid', inner, r)) ∨
       (peek tOID chk = false ∧ inner = b)) ∧
      read tSEQ inner = some (sd, y) ∧ readInt64 sd = some (v, r1) ∧
      read tSET r1 = some (dig, r2) ∧ parseAlg dig = some (o, z) ∧
      parseContentInfo r2 = some (oid, content, r3) := by
  unfold parseHead at h
  step h
  rename_i chk x h1
  simp only [] at h
  step h
  rename_i inner hin
  step h
  rename_i sd y h2
  step h
  rename_i v r1 h3
  step h
  rename_i dig r2 h4
  step h
  rename_i oz h5
  step h
  rename_i oid' content' r3' h6
  cases h
  refine ⟨chk, x, inner, sd, y, v, r1, dig, r2, oz.1, oz.2, h1, ?_, h2, h3, h4, h5, h6⟩
  split at hin
  · rename_i hp
    cases hc : parseContentInfo b with
    | none => rw [hc] at hin; cases hin
    | some p =>
      rw [hc] at hin
      cases hin
      exact Or.inl ⟨hp, p.1, p.2.2, rfl⟩
  · rename_i hp
    cases hin
    exact Or.inr ⟨(Bool.not_eq_true _).mp hp, rfl⟩

theorem parseHead_sub {b : Bytes} {oid : List Nat} {content r3 : Bytes}
    (h : parseHead b = some (oid, content, r3)) : Sub content b ∧ Sub r3 b := by
  obtain ⟨chk, x, inner, sd, y, v, r1, dig, r2, o, z, h1, hin, h2, h3, h4, h5, h6⟩ :=
    parseHead_inv h
  have hinner : Sub inner b := by
    rcases hin with ⟨_, o', r', hc⟩ | ⟨_, rfl⟩
    · exact (parseContentInfo_sub hc).1
    · exact Sub.refl _
  have hr2 : Sub r2 b :=
    (((read_sub h4).2.1.trans (readInt64_sub h3)).trans (read_sub h2).1).trans hinner
  exact ⟨(parseContentInfo_sub h6).1.trans hr2, (parseContentInfo_sub h6).2.trans hr2⟩

theorem parseP7_inv {ok : Bytes → Bool} {b : Bytes} {p : P7} (h : parseP7 ok b = some p) :
    ∃ r3 r4 sis z, parseHead b = some (p.oid, p.content, r3) ∧
      readOptional tCtx0 r3 = some (p.certs, r4) ∧ read tSET r4 = some (sis, z) ∧
      signerLoop sis.length sis = some p.signers := by
  unfold parseP7 at h
  split at h
  · cases h
  rename_i oid content r3 h1
  split at h
  · cases h
  rename_i certs r4 h2
  step h
  step h
  rename_i sis z h3
  step h
  rename_i signers h4
  cases h
  exact ⟨r3, r4, sis, z, h1, h2, h3, h4⟩

/-- the signed attributes of a parsed signer: `raw` is the transmitted `[0]` element, which occurs
    in the signer's bytes, with the tag byte replaced by SET -/
theorem parseSigner_attrs {s : Bytes} {x : Signer} {rest : Bytes}
    (h : parseSigner s = some (x, rest)) {a : Attrs} (ha : x.attrs = some a) :
    ∃ body, a.raw = some (addASN1 tSET body) ∧ Sub (addASN1 tCtx0 body) s ∧
      attrLoop body.length body { raw := some (addASN1 tSET body) } = some a := by
  obtain ⟨si, r1, ias, r2, i1, i2, r3, r4, r5, r6, o1, o2, h1, h2, h3, h4, h5, h6, h7, h8, h9⟩ :=
    parseSigner_eq_some.mp h
  rw [ha] at h7
  rcases parseAttrs_inv h7 with ⟨hn, _⟩ | ⟨body, a', hs, _, hr, hl, hraw⟩
  · cases hn
  · cases hs
    refine ⟨body, hraw, ?_, hl⟩
    obtain ⟨_, _, hr2, _⟩ := parseAlg_inv h6
    exact ((((read_sub hr).2.2.trans (read_sub hr2).2.1).trans (read_sub h3).2.1).trans
      (readInt64_sub h2)).trans (read_sub h1).1

theorem parseP7_attrs {ok : Bytes → Bool} {b : Bytes} {p : P7} (h : parseP7 ok b = some p)
    {x : Signer} (hx : x ∈ p.signers) {a : Attrs} (ha : x.attrs = some a) :
    ∃ body, a.raw = some (addASN1 tSET body) ∧ Sub (addASN1 tCtx0 body) b ∧
      attrLoop body.length body { raw := some (addASN1 tSET body) } = some a := by
  obtain ⟨r3, r4, sis, z, h1, h2, h3, h4⟩ := parseP7_inv h
  obtain ⟨s', rest, hsub, hp⟩ := signerLoop_mem h4 hx
  obtain ⟨body, k1, k2, k3⟩ := parseSigner_attrs hp ha
  exact ⟨body, k1, (((k2.trans hsub).trans (read_sub h3).1).trans (readOptional_sub h2).1).trans
    (parseHead_sub h1).2, k3⟩

/-- parsed attributes always carry `raw`, so `Marshal`'s panic is out of reach after parsing -/
theorem P7.verify_parsed_total {C : Crypto} {ok : Bytes → Bool} {b : Bytes} {p : P7} (c : Cert)
    (h : parseP7 ok b = some p) : p.verify C c ≠ .panic ∧ p.verify C c ≠ .exit := by
  refine ⟨fun hp => ?_, P7.verify_ne_exit C p c⟩
  obtain ⟨s, hs, a, ha, hr, _⟩ := P7.verify_panic hp
  obtain ⟨body, hraw, _⟩ := parseP7_attrs h hs ha
  rw [hraw] at hr
  cases hr

/-! ### the fuel of the two loops -/

/-- an element has at least two bytes: reading one lowers half the length, the measure of the two loops -/
theorem read_rest_lt {t : UInt8} {s body rest : Bytes} (h : read t s = some (body, rest)) :
    rest.length / 2 < s.length / 2 := by
  have h2 : rest.length + 2 ≤ s.length := by
    have := addASN1_length_ge t body
    rw [(read_inv h).1, List.length_append]
    omega
  exact Nat.lt_of_lt_of_le (by rw [Nat.add_div_right _ (by decide)]; exact Nat.lt_succ_self _)
    (Nat.div_le_div_right h2)

theorem parseSigner_rest {s : Bytes} {x : Signer} {rest : Bytes}
    (h : parseSigner s = some (x, rest)) : rest.length / 2 < s.length / 2 := by
  obtain ⟨si, _, _, _, _, _, _, _, _, _, _, _, h1, _⟩ := parseSigner_eq_some.mp h
  exact read_rest_lt h1

theorem parseAttr_rest {s : Bytes} {a a' : Attrs} {rest : Bytes}
    (h : parseAttr s a = some (a', rest)) : rest.length / 2 < s.length / 2 := by
  obtain ⟨el, _, _, _, _, h1, _⟩ := parseAttr_inv h
  exact read_rest_lt h1

theorem signerLoop_small (f : Nat) {s : Bytes} (h : s.length / 2 = 0) :
    signerLoop f s = if s.isEmpty then some [] else none := by
  cases f with
  | zero => rfl
  | succ f =>
    unfold signerLoop
    split
    · rfl
    · cases hp : parseSigner s with
      | none => rfl
      | some v => exact absurd (h ▸ parseSigner_rest (x := v.1) (rest := v.2) hp) (Nat.not_lt_zero _)

theorem signerLoop_fuel_irrel : ∀ (f1 f2 : Nat) (s : Bytes),
    s.length / 2 ≤ f1 → s.length / 2 ≤ f2 → signerLoop f1 s = signerLoop f2 s := by
  refine fuel_irrel (fun s : Bytes => s.length / 2) (fun f s h => ?_) ?_
  · rw [signerLoop_small f h, signerLoop_small 0 h]
  intro f f' s ih
  unfold signerLoop
  split
  · rfl
  · cases hp : parseSigner s with
    | none => rfl
    | some v =>
      simp only
      rw [ih v.2 (parseSigner_rest (x := v.1) hp)]

theorem attrLoop_small (f : Nat) {s : Bytes} (a : Attrs) (h : s.length / 2 = 0) :
    attrLoop f s a = if s.isEmpty then some a else none := by
  cases f with
  | zero => rfl
  | succ f =>
    unfold attrLoop
    split
    · rfl
    · cases hp : parseAttr s a with
      | none => rfl
      | some v => exact absurd (h ▸ parseAttr_rest (a' := v.1) (rest := v.2) hp) (Nat.not_lt_zero _)

theorem attrLoop_fuel_irrel (f1 f2 : Nat) (s : Bytes) (a : Attrs) :
    s.length / 2 ≤ f1 → s.length / 2 ≤ f2 → attrLoop f1 s a = attrLoop f2 s a := by
  -- the state of the loop is the input together with the attributes read so far
  refine fuel_irrel (loop := fun f (p : Bytes × Attrs) => attrLoop f p.1 p.2) (fun p => p.1.length / 2)
    (fun f p h => ?_) ?_ f1 f2 (s, a)
  · show attrLoop f p.1 p.2 = attrLoop 0 p.1 p.2
    rw [attrLoop_small f p.2 h, attrLoop_small 0 p.2 h]
  intro f f' p ih
  show attrLoop (f + 1) p.1 p.2 = attrLoop (f' + 1) p.1 p.2
  unfold attrLoop
  split
  · rfl
  · cases hp : parseAttr p.1 p.2 with
    | none => rfl
    | some v => exact ih (v.2, v.1) (parseAttr_rest (a' := v.1) hp)

/-! ### relation to the specification `Spec.cmsVerify` -/

theorem skipAny_of_read {t : UInt8} {s b r : Bytes} (h : read t s = some (b, r)) :
    Spec.skipAny s = some r := by
  simp [Spec.skipAny, read_readAny h]

/-- What `Spec.findMD` finds (the last messageDigest value, or nothing) is what the attribute loop
    stores in `md`, whose default is the empty value. -/
theorem findMD_of_attrLoop {f : Nat} {s : Bytes} {a0 a : Attrs} {acc : Option Bytes}
    (h : attrLoop f s a0 = some a) (hacc : acc.getD [] = a0.md) :
    ∃ m, Spec.findMD f s acc = some m ∧ m.getD [] = a.md := by
  induction f generalizing s a0 acc with
  | zero =>
    cases s with
    | nil => cases h; exact ⟨acc, rfl, hacc⟩
    | cons b bs => cases h
  | succ f ih =>
    cases s with
    | nil => cases h; exact ⟨acc, rfl, hacc⟩
    | cons b bs =>
      simp only [attrLoop, List.isEmpty_cons, Bool.false_eq_true, if_false] at h
      step h
      rename_i a' rest hp
      obtain ⟨el, oid, r1, set, r1', h1, h2, h3, _, hmd⟩ := parseAttr_inv hp
      simp only [Spec.findMD, List.isEmpty_cons, Bool.false_eq_true, if_false, h1, h2, h3]
      have e : Spec.oidMessageDigest = oidMessageDigest := rfl
      rw [e]
      split at hmd
      · rename_i ho
        obtain ⟨d, r, h4, hd⟩ := hmd
        simp only [ho, if_true, h4]
        exact ih h hd.symm
      · rename_i ho
        simp only [ho]
        exact ih h (hacc.trans hmd.symm)

/-- `y` is what the specification's parser makes of the bytes that the implementation parsed `x` from: the same issuer,
    serial number and signature, and the signed attributes as they were transmitted (the `[0]` element and its body), of
    which `x.attrs` is the reading by `attrLoop`, keeping in `raw` the body under the SET tag -/
def SignerRel (x : Signer) (y : Spec.SpecSigner) : Prop :=
  y.issuer = x.issuer ∧ y.serial = x.serial ∧ y.sig = x.sig ∧
  match x.attrs with
  | none => y.attrsElem = none
  | some a => ∃ body, y.attrsElem = some (addASN1 tCtx0 body) ∧ y.attrsBody = body ∧
      a.raw = some (addASN1 tSET body) ∧
      attrLoop body.length body { raw := some (addASN1 tSET body) } = some a

theorem parseSpecSigner_of_parseSigner {s : Bytes} {x : Signer} {rest : Bytes}
    (h : parseSigner s = some (x, rest)) :
    ∃ y, Spec.parseSpecSigner s = some (y, rest) ∧ SignerRel x y := by
  obtain ⟨si, r1, ias, r2, i1, i2, r3, r4, r5, r6, o1, o2, h1, h2, h3, h4, h5, h6, h7, h8, h9⟩ :=
    parseSigner_eq_some.mp h
  have h2' := readBigInt_of_readInt64 h2
  obtain ⟨_, _, h6', _⟩ := parseAlg_inv h6
  obtain ⟨_, _, h8', _⟩ := parseAlg_inv h8
  have k6 := skipAny_of_read h6'
  have k8 := skipAny_of_read h8'
  -- the reads in front of the attributes, then the two cases: no `[0]` element, or one
  simp only [Spec.parseSpecSigner, h1, h2', h3, h4, h5, k6, Option.bind_eq_bind, Option.bind_some]
  rcases parseAttrs_inv h7 with ⟨hn, rfl, hpk⟩ | ⟨body, a, hs, hpk, hr, hl, hraw⟩
  · refine ⟨⟨x.issuer, x.serial, none, [], x.sig⟩, ?_, ?_⟩
    · simp only [hpk, k8, h9, Option.bind_some, Option.pure_def, Bool.false_eq_true, if_false]
    · simp [SignerRel, hn]
  · refine ⟨⟨x.issuer, x.serial, some (addASN1 tCtx0 body), body, x.sig⟩, ?_, ?_⟩
    · simp only [hpk, readElement_of_read hr, hr, k8, h9, Option.bind_some, Option.pure_def, if_true]
    · simp only [SignerRel, hs, true_and]
      exact ⟨body, rfl, rfl, hraw, hl⟩

/-- `SignerRel`, signer by signer -/
def SignersRel : List Signer → List Spec.SpecSigner → Prop
  | [], [] => True
  | x :: xs, y :: ys => SignerRel x y ∧ SignersRel xs ys
  | _, _ => False

theorem SignersRel.mem {xs : List Signer} {ys : List Spec.SpecSigner} (h : SignersRel xs ys) :
    ∀ x ∈ xs, ∃ y ∈ ys, SignerRel x y := by
  induction xs generalizing ys with
  | nil => intro x hx; cases hx
  | cons a xs ih =>
    cases ys with
    | nil => exact h.elim
    | cons b ys =>
      intro x hx
      rcases List.mem_cons.mp hx with rfl | hm
      · exact ⟨b, List.mem_cons_self, h.1⟩
      · obtain ⟨y, hy, hr⟩ := ih h.2 x hm
        exact ⟨y, List.mem_cons_of_mem _ hy, hr⟩

theorem SignersRel.one {x : Signer} {ys : List Spec.SpecSigner} (h : SignersRel [x] ys) :
    ∃ y, ys = [y] ∧ SignerRel x y :=
  match ys, h with
  | [y], ⟨hy, _⟩ => ⟨y, rfl, hy⟩

/-- `SignerRel` for a signer with signed attributes, as an equation for `y` -/
theorem SignerRel.of_attrs {x : Signer} {y : Spec.SpecSigner} {a : Attrs} (h : SignerRel x y)
    (ha : x.attrs = some a) :
    ∃ body, y = ⟨x.issuer, x.serial, some (addASN1 tCtx0 body), body, x.sig⟩ ∧
      a.raw = some (addASN1 tSET body) ∧ attrLoop body.length body { raw := some (addASN1 tSET body) } = some a := by
  obtain ⟨yi, ys, ye, yb, yg⟩ := y
  unfold SignerRel at h
  simp only [ha] at h
  obtain ⟨rfl, rfl, rfl, body, rfl, rfl, hraw, hl⟩ := h
  exact ⟨yb, rfl, hraw, hl⟩

theorem SignerRel.eq {x : Signer} {y : Spec.SpecSigner} {a : Attrs} {ab : Bytes}
    (h : SignerRel x y) (ha : x.attrs = some a) (hr : a.raw = some (addASN1 tSET ab)) :
    y = ⟨x.issuer, x.serial, some (addASN1 tCtx0 ab), ab, x.sig⟩ := by
  obtain ⟨body, rfl, hraw, -⟩ := h.of_attrs ha
  rw [hr, Option.some.injEq] at hraw
  rw [(addASN1_inj hraw).2]

theorem specSigners_of_signerLoop {f : Nat} {s : Bytes} {xs : List Signer}
    (h : signerLoop f s = some xs) :
    ∃ ys, Spec.specSigners f s = some ys ∧ SignersRel xs ys := by
  induction f generalizing s xs with
  | zero =>
    cases s with
    | nil => cases h; exact ⟨[], rfl, trivial⟩
    | cons b bs => cases h
  | succ f ih =>
    cases s with
    | nil => cases h; exact ⟨[], rfl, trivial⟩
    | cons b bs =>
      simp only [signerLoop, List.isEmpty_cons, Bool.false_eq_true, if_false] at h
      step h
      rename_i x rest hp
      step h
      rename_i xs' hl
      cases h
      obtain ⟨y, hy, hrel⟩ := parseSpecSigner_of_parseSigner hp
      obtain ⟨ys, hys, hall⟩ := ih hl
      exact ⟨y :: ys, by simp [Spec.specSigners, hy, hys], hrel, hall⟩

/-! `Spec.parseSignedData` cut into its stages (same `do` blocks as in `GoUefi/Spec/Cms.lean`;
    `parseSignedData_eq` is by `rfl`) -/

/-- body of the SignedData, with or without the outer ContentInfo -/
def specBody (outer : Bytes) : Option Bytes :=
  if peek tOID outer then do
    let (_, r) ← readOID outer
    let (c, _) ← read tCtx0 r
    let (sd, _) ← read tSEQ c
    pure sd
  else pure outer

/-- the encapsulated content's value octets, given what follows the eContentType -/
def specContent (e1 : Bytes) : Option (Option Bytes) :=
  if e1.isEmpty then pure none else do
    let (c, e2) ← read tCtx0 e1
    if !e2.isEmpty then none
    else if c.isEmpty then pure none
    else do
      let (_, v, _) ← readAny c
      pure (some v)

def specSkipCerts (r3 : Bytes) : Option Bytes := if peek tCtx0 r3 then Spec.skipAny r3 else some r3
def specSkipCrls (r4 : Bytes) : Option Bytes := if peek 0xa1 r4 then Spec.skipAny r4 else some r4

theorem parseSignedData_eq (blob : Bytes) :
    Spec.parseSignedData blob = (do
      let (outer, _) ← read tSEQ blob
      let sdBody ← specBody outer
      let (_, r1) ← readBigInt sdBody
      let (_, r2) ← read tSET r1
      let (eci, r3) ← read tSEQ r2
      let (_, e1) ← readOID eci
      let content ← specContent e1
      let r4 ← specSkipCerts r3
      let r5 ← specSkipCrls r4
      let (sis, _) ← read tSET r5
      let signers ← Spec.specSigners sis.length sis
      pure (content, signers)) := rfl

/-- the content value octets the specification extracts -/
def contentVal (content : Bytes) : Option Bytes :=
  if content.isEmpty then none else (readAny content).map fun x => x.2.1

theorem read_nil (t : UInt8) : read t [] = none := rfl

theorem specBody_of_parseHead {b chk x inner sd y : Bytes} (h1 : read tSEQ b = some (chk, x))
    (hin : (peek tOID chk = true ∧ ∃ oid' r, parseContentInfo b = some (oid', inner, r)) ∨
       (peek tOID chk = false ∧ inner = b))
    (h2 : read tSEQ inner = some (sd, y)) : specBody chk = some sd := by
  unfold specBody
  rcases hin with ⟨hp, oid', r, hci⟩ | ⟨hp, rfl⟩
  · -- inside a ContentInfo: `chk` is OID and `[0]`, `inner` the body of the `[0]` (present: `inner` holds an element)
    obtain ⟨b', r1', c, k1, k2, k3, rfl⟩ := parseContentInfo_inv hci
    obtain ⟨rfl, rfl⟩ := Prod.mk.inj (Option.some.inj (h1.symm.trans k1))
    rcases readOptional_inv k3 with ⟨rfl, _, _⟩ | ⟨cc, rfl, _, hr, _⟩
    · cases (read_nil tSEQ).symm.trans h2
    · have h2' : read tSEQ cc = some (sd, y) := h2
      simp only [hp, if_true, k2, hr, h2', Option.bind_eq_bind, Option.bind_some, Option.pure_def]
  · -- a bare SignedData: `chk` is its body
    obtain ⟨rfl, -⟩ := Prod.mk.inj (Option.some.inj (h1.symm.trans h2))
    simp only [hp, Bool.false_eq_true, if_false, Option.pure_def]

theorem specContent_of_parseContentInfo {e1 : Bytes} {c : Option Bytes}
    (h : readOptional tCtx0 e1 = some (c, []))
    (hc : c.getD [] ≠ [] → ∃ t v r, readAny (c.getD []) = some (t, v, r)) :
    specContent e1 = some (contentVal (c.getD [])) := by
  unfold specContent
  rcases readOptional_inv h with ⟨rfl, he, _⟩ | ⟨cc, rfl, _, hr, hs⟩
  · -- nothing behind the eContentType
    subst he
    simp [contentVal]
  · -- a `[0]` and nothing behind it: its body is empty, or holds an element (`hc`)
    have hne : e1.isEmpty = false := by rw [hs]; exact addASN1_append_isEmpty _ _ _
    simp only [Option.getD_some] at hc ⊢
    cases cc with
    | nil => simp [hne, hr, contentVal]
    | cons c0 cs =>
      obtain ⟨t, v, r, hv⟩ := hc (by simp)
      simp [hne, hr, contentVal, hv]

theorem specSkipCerts_of_readOptional {r3 r4 : Bytes} {certs : Option Bytes}
    (h : readOptional tCtx0 r3 = some (certs, r4)) : specSkipCerts r3 = some r4 := by
  unfold specSkipCerts
  rcases readOptional_inv h with ⟨_, rfl, hp⟩ | ⟨_, _, hp, hr, _⟩
  · simp [hp]
  · simp [hp, skipAny_of_read hr]

theorem specSkipCrls_of_read {r4 sis z : Bytes} (h : read tSET r4 = some (sis, z)) :
    specSkipCrls r4 = some r4 := by
  unfold specSkipCrls
  have : peek 0xa1 r4 = false := peek_ne_of_read h (by decide)
  simp [this]

theorem parseSignedData_of_parseP7 {ok : Bytes → Bool} {b : Bytes} {p : P7}
    (h : parseP7 ok b = some p)
    (hc : p.content ≠ [] → ∃ t v r, readAny p.content = some (t, v, r)) :
    ∃ ys, Spec.parseSignedData b = some (contentVal p.content, ys) ∧ SignersRel p.signers ys := by
  obtain ⟨r3, r4, sis, z, hh, hcerts, hsis, hloop⟩ := parseP7_inv h
  obtain ⟨chk, x, inner, sd, y, v, r1, dig, r2, o, z', h1, hin, h2, h3, h4, h5, h6⟩ :=
    parseHead_inv hh
  obtain ⟨ys, hys, hall⟩ := specSigners_of_signerLoop hloop
  refine ⟨ys, ?_, hall⟩
  obtain ⟨eci, e1, c, k1, k2, k3, k4⟩ := parseContentInfo_inv h6
  rw [k4] at hc
  have hA := specBody_of_parseHead h1 hin h2
  have hB := specContent_of_parseContentInfo k3 hc
  rw [← k4] at hB
  have hC := specSkipCerts_of_readOptional hcerts
  have hD := specSkipCrls_of_read hsis
  have h3' := readBigInt_of_readInt64 h3
  rw [parseSignedData_eq]
  simp only [h1, hA, h3', h4, k1, k2, hB, hC, hD, hsis, hys, Option.bind_eq_bind, Option.bind_some,
    Option.pure_def]

/-- what the specification verifies the signature over (RFC 5652, 5.4: the transmitted `[0]` element with its first
    octet replaced by the SET tag) is the SET encoding of the same body -/
theorem addASN1_retag (ab : Bytes) : (0x31 : UInt8) :: (addASN1 tCtx0 ab).drop 1 = addASN1 tSET ab := rfl

/-- `hsha`: a digest is never the empty string. A signer without a messageDigest attribute is
    parsed with `md = []`, which an empty digest would match; see `C04_refines_spec_partial`. -/
theorem signerAccepts_of_verify {C : Crypto} {c : Cert} {content : Bytes} {s : Signer}
    {y : Spec.SpecSigner} (hsha : ∀ x, C.sha256 x ≠ []) (hrel : SignerRel s y)
    (hcert : s.isCertificate c = true) (hv : s.verify C c content = .ok true) :
    Spec.signerAccepts C c (contentVal content) y = true := by
  obtain ⟨a, ha, ⟨sigdata, hd, hrsa⟩, hdig⟩ := Signer.verify_ok_true_iff.mp hv
  obtain ⟨hi, hs⟩ := isCertificate_iff.mp hcert
  obtain ⟨yb, rfl, hraw, hl⟩ := hrel.of_attrs ha
  -- parsed attributes carry `raw`: that is what was verified
  rw [hraw] at hd
  obtain rfl : addASN1 tSET yb = sigdata := hd.elim Option.some.inj nofun
  unfold Spec.signerAccepts
  simp only [hi, hs, BEq.rfl, Bool.and_self, Bool.true_and, addASN1_retag, hrsa]
  unfold contentVal
  cases hcn : content with
  | nil => simp
  | cons c0 cs =>
    obtain ⟨t, v, r, hr, hmd⟩ := hdig (by simp [hcn])
    rw [hcn] at hr
    simp only [List.isEmpty_cons, Bool.false_eq_true, if_false, hr, Option.map_some]
    -- the specification finds the stored digest, or none; then the stored one is empty: not a digest (`hsha`)
    obtain ⟨m, hm, hcase⟩ := findMD_of_attrLoop (acc := none) hl rfl
    cases m with
    | none => exact absurd (hmd.trans hcase.symm) (hsha v)
    | some d => simp [hm, hmd, ← hcase]

/-- what the implementation accepts, the specification accepts — for a digest function that
    never returns the empty string -/
theorem cmsVerify_of_verify {C : Crypto} {ok : Bytes → Bool} {b : Bytes} {p : P7} {c : Cert}
    (hsha : ∀ x, C.sha256 x ≠ []) (h : parseP7 ok b = some p) (hv : p.verify C c = .ok true) :
    Spec.cmsVerify C b c none = true := by
  rcases P7.verify_cases C p c with e | ⟨s, hmem, hcert, e⟩
  · rw [e] at hv; cases hv
  rw [e] at hv
  obtain ⟨_, _, _, hdig⟩ := Signer.verify_ok_true_iff.mp hv
  have hc : p.content ≠ [] → ∃ t v r, readAny p.content = some (t, v, r) := by
    intro hne
    obtain ⟨t, v, r, hr, _⟩ := hdig hne
    exact ⟨t, v, r, hr⟩
  obtain ⟨ys, hys, hall⟩ := parseSignedData_of_parseP7 h hc
  obtain ⟨y, hy, hrel⟩ := hall.mem s hmem
  have hacc := signerAccepts_of_verify hsha hrel hcert hv
  unfold Spec.cmsVerify
  simp only [hys]
  refine List.any_eq_true.mpr ⟨y, hy, ?_⟩
  -- nothing detached: the signers are checked against the encapsulated content
  cases hcv : contentVal p.content with
  | none => rwa [hcv] at hacc
  | some v => rwa [hcv] at hacc

/-! ### C16: canonical attribute bodies -/

/-- The body of the transmitted signed attributes is *canonical* for the parsed values `a`: it is
    exactly the layout `Attributes.Marshal` writes for them, the encodings
    `attrSeq contentType, [attrSeq signingTime], attrSeq messageDigest, other attributes`
    sorted into DER SET OF order (`sortEnc`, F19) and concatenated,
    with all OIDs valid (`attrsBody a = some body`).  For values obtained from `attrLoop` the time
    text satisfies `parseUTC t = some t'` with `t'` the stored text, and every other attribute
    is stored as (oid, SET contents) — see `attrsBody`. -/
def Canon (a : Attrs) (body : Bytes) : Prop := attrsBody a = some body

instance (a : Attrs) (body : Bytes) : Decidable (Canon a body) :=
  inferInstanceAs (Decidable (attrsBody a = some body))

theorem marshal_of_canon {a : Attrs} {body : Bytes} (hc : Canon a body) :
    a.marshal = .ok (addASN1 tSET body) := by
  unfold Canon at hc
  simp [Attrs.marshal, hc]

/-- for attributes whose `raw` is the re-tagged `body`: the body is canonical exactly when
    `Marshal` reproduces `raw` -/
theorem canon_iff_marshal_eq_raw {a : Attrs} {body : Bytes}
    (hraw : a.raw = some (addASN1 tSET body)) :
    Canon a body ↔ ∃ r, a.raw = some r ∧ a.marshal = .ok r := by
  rw [hraw]
  simp only [Option.some.injEq, exists_eq_left', Canon, Attrs.marshal]
  cases attrsBody a with
  | none => simp
  | some b =>
    -- a DER element determines its body
    simp only [Option.some.injEq, Outcome.ok.injEq]
    exact ⟨congrArg _, fun h => (addASN1_inj h).2⟩

end GoUefi.Impl

/-! ### concrete values for the non-vacuity examples of C04 / C16 -/
namespace GoUefi.P7Ex
open GoUefi GoUefi.Der GoUefi.Impl

/-- toy cryptography: the digest is the message, a signature is valid iff it equals the message -/
def toy : Crypto := ⟨id, fun _ m s => s == m⟩
/-- a degenerate digest that is always empty (counterexample for `C04_refines_spec_partial` without `hsha`) -/
def nilC : Crypto := ⟨fun _ => [], fun _ m s => s == m⟩

def issuer : Bytes := addASN1 tSEQ []
def cert : Cert := ⟨issuer, 5, ⟨0, 0⟩⟩
def otherCert : Cert := ⟨issuer, 6, ⟨0, 0⟩⟩
/-- "250101000000Z" -/
def time : Bytes := [0x32, 0x35, 0x30, 0x31, 0x30, 0x31, 0x30, 0x30, 0x30, 0x30, 0x30, 0x30, 0x5a]
def oid : List Nat := [1, 3, 6, 1, 4, 1, 311, 2, 1, 4]
def content : Bytes := [1, 2, 3]

/-- a SignedData around `content` with one signer (issuer `issuer`, serial 5), the given body of
    signed attributes (`none`: no `[0]` field) and signature octets -/
def mkBlob (ab : Option Bytes) (sig : Bytes) : Bytes :=
  let eci := oidOr oid ++ addASN1 tCtx0 (addASN1 tSEQ content)
  let signer := addASN1 tSEQ (
      addUInt 1 ++ addASN1 tSEQ (issuer ++ addUInt 5) ++ algSha256 ++
      (match ab with | some ab => addASN1 tCtx0 ab | none => []) ++
      addASN1 tSEQ (oidOr oidRsa ++ addNULL) ++ addOctets sig)
  let sd := addASN1 tSEQ (addUInt 1 ++ addASN1 tSET algSha256 ++ addASN1 tSEQ eci ++
      addASN1 tCtx0 [] ++ addASN1 tSET signer)
  addASN1 tSEQ (oidOr oidSignedData ++ addASN1 tCtx0 sd)

/-- canonical attributes (what `SignPKCS7` writes) -/
def attrs : Attrs := { contentType := some oid, md := content, time := some time }
def body : Bytes := (attrsBody attrs).getD []
def blob : Bytes := mkBlob (some body) (addASN1 tSET body)

/-- contentType before messageDigest, no signing time: accepted by the parser, not what `Marshal`
    writes (not the DER SET OF order: the messageDigest attribute is the shorter encoding and
    sorts first) -/
def bodyReordered : Bytes :=
  attrSeq oidContentType (oidOr oid) ++ attrSeq oidMessageDigest (addOctets content)
def blobReordered : Bytes := mkBlob (some bodyReordered) (addASN1 tSET bodyReordered)
/-- the values parsed from `bodyReordered` (without `raw`) -/
def attrsReordered : Attrs := { contentType := some oid, md := content }

def bodyNoMd : Bytes := attrSeq oidContentType (oidOr oid)
def blobNoMd : Bytes := mkBlob (some bodyNoMd) (addASN1 tSET bodyNoMd)

def bodyBadMd : Bytes :=
  (attrsBody { contentType := some oid, md := [9], time := some time }).getD []
def blobBadMd : Bytes := mkBlob (some bodyBadMd) (addASN1 tSET bodyBadMd)

def blobBadSig : Bytes := mkBlob (some body) [0]
def blobNoAttrs : Bytes := mkBlob none [0]

def allOk : Bytes → Bool := fun _ => true

def run (C : Crypto) (b : Bytes) (c : Cert) : Option (Outcome Bool) :=
  (parseP7 allOk b).map fun p => p.verify C c

/-- what `ParsePKCS7` returns for `mkBlob (some ab) (SET ab)` when the attribute loop reads the
    values `a` from `ab` -/
def parsedWith (a : Attrs) (ab : Bytes) : P7 :=
  ⟨oid, addASN1 tSEQ content, some [],
    [⟨1, issuer, 5, some { a with raw := some (addASN1 tSET ab) }, addASN1 tSET ab⟩]⟩

/-- the two sample blobs are parsed once, here; the examples of C04 and C16 look at the result -/
theorem parse_blob : parseP7 allOk blob = some (parsedWith attrs body) := by decide +kernel
theorem parse_blobReordered :
    parseP7 allOk blobReordered = some (parsedWith attrsReordered bodyReordered) := by decide +kernel

end GoUefi.P7Ex

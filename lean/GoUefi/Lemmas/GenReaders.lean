import GoUefi.Lemmas.GenSigAbs
import GoUefi.Lemmas.SigDb
/-!
# Lemmas about the translated signature-database decoder and encoder (support for `C08g.lean`)

From the innermost reader outwards.  `ReadSignatureData` is stated once, as a function in the model's vocabulary
(`RSD_eq`, through `Impl.readSig`).  Its caller, the entry loop of the closure `parseList`, is related to
`Impl.readSigs` by induction (`parseLoop_spec`).  `ReadSignatureList` is again a function in the model's vocabulary
(`RSL_eq`: through `Impl.readHeader` and `Impl.handled`, up to its call of `parseList`; one header read is `hdr_step`,
the size check `hdr_check`, the per-type `switch` `dispatch_eq`), and once the entry loop has fuel for what is left
to read one that does not mention the fuel (`RSL_closed`, through `Impl.readSigs`): hence independent of the fuel
(`RSL_fuel`) and related to `Impl.readList` (`RSL_spec`).  The loop of `ReadSignatureDatabase` against
`Impl.readDbAux`: `dbLoop_spec`, `dbLoop_fuel`.
The writers are `WSD_eq`, `WSL_eq`, `WSDB_eq`.
-/
namespace GoUefi.Gen
open GoUefi GoUefi.C09

theorem decGuid_ok (b : List UInt8) (h : b.length = 16) :
    GuidOK (decLE_util_EFIGUID b) ∧ gw (decLE_util_EFIGUID b) = b :=
  ⟨GenCodec.decLE_guid_data4_length b h, GenCodec.encLE_decLE_guid b h⟩

/-- Go's zero values, which the decoders return beside an error -/
def zeroGuid : util.EFIGUID := ⟨0, 0, 0, [0, 0, 0, 0, 0, 0, 0, 0]⟩
def zeroSD : signature.SignatureData := ⟨zeroGuid, []⟩
def zeroL : signature.SignatureList := ⟨zeroGuid, 0, 0, 0, [], []⟩

/-! ### `ReadSignatureData` -/

/-- an entry of the model, as the translated decoder holds it -/
def unabsSD (s : Impl.SData) : signature.SignatureData := ⟨decLE_util_EFIGUID s.owner, s.data⟩

theorem absSD_unabsSD {s : Impl.SData} (h : s.owner.length = 16) :
    absSD (unabsSD s) = s ∧ GuidOK (unabsSD s).Owner := by
  obtain ⟨h1, h2⟩ := decGuid_ok s.owner h
  exact ⟨by rw [absSD, unabsSD, h2], h1⟩

/-- `io.ReadAll(io.LimitReader(f, want))` never fails: the code compares the length it got with `want` -/
theorem take_length_bne (l : List UInt8) (w : Nat) :
    (Int.ofNat (l.take w).length != (w : Int)) = decide (l.length < w) := by
  by_cases h : l.length < w
  · rw [List.take_of_length_le (Nat.le_of_lt h), decide_eq_true h, bne_iff_ne]
    exact fun e => Nat.ne_of_lt h (Int.ofNat_inj.mp e)
  · rw [List.length_take_of_le (Nat.not_lt.mp h), decide_eq_false h]
    exact bne_self_eq_false _

/-- `ReadSignatureData` in the model's terms (for a size the list decoder can ask for) -/
theorem RSD_eq (f : List UInt8) (size : UInt32) (hs : 16 ≤ size.toNat) :
    signature.ReadSignatureData f size =
      match Impl.readSig size.toNat f with
      | .ok (s, rest) => (rest, unabsSD s, none)
      | .error _ => ([], zeroSD, goWrap (some (if f = [] then "io.EOF" else "io.ErrUnexpectedEOF"))) := by
  have h16 : ¬ size < util.SizeofEFIGUID := by
    rw [UInt32.lt_iff_toNat_lt]; exact Nat.not_lt.mpr hs
  have hsub : (size - util.SizeofEFIGUID).toNat = size.toNat - 16 :=
    UInt32.toNat_sub_of_le _ _ (UInt32.le_iff_toNat_le.mpr hs)
  unfold signature.ReadSignatureData Impl.readSig
  rw [GenCodec.readBytes_eq, readN_eq]
  by_cases h1 : f.length < 16
  · simp only [h1, if_true, Option.isSome_some]
    rfl
  · simp only [h1, if_false, readUpTo, hsub, h16, Option.isNone_none, Option.isSome_none, if_true, Bool.false_eq_true,
      decide_false, Int.toNat_natCast, Bool.true_and, readN_eq]
    have hne : f ≠ [] := fun e => h1 (by rw [e]; decide)
    rw [take_length_bne]
    by_cases h2 : (f.drop 16).length < size.toNat - 16
    · simp only [h2, decide_true, if_true, Option.isSome_some, if_neg hne,
        List.drop_eq_nil_of_le (Nat.le_of_lt h2)]
      rfl
    · simp only [h2, decide_false, Bool.false_eq_true, if_false, Option.isSome_none]
      rfl

/-! ### the `parseList` loop -/

theorem parseLoop_succ (s : signature.SignatureList) (size : UInt32) (n : Nat) (f : List UInt8) (t : UInt32)
    (d : List signature.SignatureData) :
    signature.ReadSignatureList.parseList.loop1 s size (n + 1) f t d =
      if t = 0 then Loop.ret (f, t, d, none)
      else if errIs (signature.ReadSignatureData f size).2.2 "io.EOF" = true then
        Loop.ret ((signature.ReadSignatureData f size).1, t, [], some "%w:io.ErrUnexpectedEOF")
      else if (signature.ReadSignatureData f size).2.2.isSome = true then
        Loop.ret ((signature.ReadSignatureData f size).1, t, [], (signature.ReadSignatureData f size).2.2)
      else signature.ReadSignatureList.parseList.loop1 s size n (signature.ReadSignatureData f size).1
        (t - s.Size) (d ++ [(signature.ReadSignatureData f size).2.1]) := by
  rw [signature.ReadSignatureList.parseList.loop1]
  simp only [beq_iff_eq, goWrap_ueof]

theorem parseLoop_spec (s : signature.SignatureList) (size : UInt32) (hsz : s.Size = size) (hs : 16 ≤ size.toNat)
    (n k : Nat) (f : List UInt8) (t : UInt32) (d : List signature.SignatureData)
    (ht : t.toNat = k * size.toNat) (hn : f.length < n) :
    match Impl.readSigs size.toNat k f with
    | .ok (ss, rest) => signature.ReadSignatureList.parseList.loop1 s size n f t d =
        Loop.ret (rest, 0, d ++ ss.map unabsSD, none)
    | .error _ => ∃ t', signature.ReadSignatureList.parseList.loop1 s size n f t d =
        Loop.ret ([], t', [], some "%w:io.ErrUnexpectedEOF") := by
  induction n generalizing k f t d with
  | zero => exact absurd hn (Nat.not_lt_zero _)
  | succ n ih =>
    rw [parseLoop_succ]
    cases k with
    | zero =>
      have h0 : t = 0 := UInt32.toNat_inj.mp (by simpa using ht)
      rw [if_pos h0, h0]
      simp [Impl.readSigs]
    | succ k =>
      have h0 : t ≠ 0 := fun h => by
        rw [h] at ht
        exact Nat.ne_of_lt (Nat.mul_pos k.succ_pos (Nat.lt_of_lt_of_le (by decide) hs)) ht
      rw [if_neg h0, RSD_eq f size hs, Impl.readSigs]
      cases hr : Impl.readSig size.toNat f with
      | error e =>
        by_cases hf : f = []
        · simp only [if_pos hf, goWrap_eof, errIs_weof, if_true]; exact ⟨t, rfl⟩
        · simp only [if_neg hf, goWrap_ueof, errIs_wueof, Bool.false_eq_true, if_false, Option.isSome_some, if_true]
          exact ⟨t, rfl⟩
      | ok p =>
        obtain ⟨sg, rest⟩ := p
        have hl := Impl.readSig_rest hs hr
        -- `t` is `size` times the turns still to go, `k + 1` of them: the `uint32` subtraction does not wrap
        have hle : s.Size ≤ t := by
          rw [UInt32.le_iff_toNat_le, hsz, ht, Nat.add_one_mul]; exact Nat.le_add_left _ _
        have ht' : (t - s.Size).toNat = k * size.toNat := by
          rw [UInt32.toNat_sub_of_le _ _ hle, hsz, ht, Nat.add_one_mul, Nat.add_sub_cancel]
        have := ih k rest (t - s.Size) (d ++ [unabsSD sg]) ht' (by omega)
        simp only [errIs_none, Bool.false_eq_true, if_false, Option.isSome_none]
        generalize Impl.readSigs size.toNat k rest = r at this ⊢
        cases r with
        | error e => exact this
        | ok q =>
          show signature.ReadSignatureList.parseList.loop1 s size n rest (t - s.Size) (d ++ [unabsSD sg]) = _
          rw [this, List.map_cons, List.append_assoc, List.singleton_append]

theorem parseList_eq (fuel : Nat) (s : signature.SignatureList) (f : List UInt8) (t : UInt32)
    (d : List signature.SignatureData) (size : UInt32) :
    signature.ReadSignatureList.parseList fuel s f t d size =
      match signature.ReadSignatureList.parseList.loop1 s size fuel f t d with
      | Loop.ret r => r
      | Loop.done _ => (f, t, [], some "go2lean:out-of-fuel") := rfl

/-! ### the scheme table read by tag, and the per-type `switch` -/

theorem lookup_getD_eq_iff {α β : Type} [BEq α] [LawfulBEq α] {l : List (α × β)} {k : α} {v d : β}
    (hk : l.lookup k = some v) (hv : ∀ p ∈ l, p.2 = v ↔ p.1 = k) (hd : d ≠ v) (g : α) :
    (l.lookup g).getD d = v ↔ g = k := by
  cases hl : l.lookup g with
  | some w =>
    obtain ⟨l₁, l₂, rfl, -⟩ := List.lookup_eq_some_iff.mp hl
    exact hv (g, w) (by simp)
  | none => exact ⟨fun h => absurd h hd, fun h => by rw [h, hk] at hl; cases hl⟩

theorem u32_bne (x : UInt32) (n : Nat) (h : n < 2^32) : (x != UInt32.ofNat n) = decide (x.toNat ≠ n) := by
  rw [Bool.eq_iff_iff, bne_iff_ne, decide_eq_true_eq, ne_eq, ne_eq, ← UInt32.toNat_inj,
    UInt32.toNat_ofNat_of_lt' h]

theorem ite_and {α : Type} {p q : Prop} [Decidable p] [Decidable q] (a b : α) :
    (if p ∧ q then a else b) = if p then (if q then a else b) else b := by
  by_cases hp : p <;> simp [hp]

/-- guards with the same answer are one guard -/
theorem ite_guards {α : Type} {p q : Prop} [Decidable p] [Decidable q] (h : Bool) (a b : α) :
    (if p then a else if q then a else if h = true then b else a) = if (p ∨ q) ∨ h = false then a else b := by
  by_cases hp : p <;> by_cases hq : q <;> cases h <;> simp [hp, hq]

/-- the decoder's per-type `switch` is the model's `handled`; the two outcomes are left open -/
theorem dispatch_eq {α : Type} (g : util.EFIGUID) (H S : UInt32) (err fin : α) :
    (if ((signature.ValidEFISignatureSchemes.lookup g).getD "" == "X509") = true then
      (if (H != 0) = true then err else fin)
    else if ((signature.ValidEFISignatureSchemes.lookup g).getD "" == "SHA256") = true then
      (if (H != 0) = true then err else if (S != 48) = true then err else fin)
    else if ((signature.ValidEFISignatureSchemes.lookup g).getD "" == "EXTERNAL MANAGEMENT") = true then
      (if (H != 0) = true then err else if (S != 17) = true then err else fin)
    else err) = if Impl.handled (gw g) H.toNat S.toNat = true then fin else err := by
  -- in the table each of the three tags stands under its type only
  have hv : ∀ p ∈ signature.ValidEFISignatureSchemes,
      (p.2 = "X509" ↔ p.1 = signature.CERT_X509_GUID) ∧ (p.2 = "SHA256" ↔ p.1 = signature.CERT_SHA256_GUID) ∧
      (p.2 = "EXTERNAL MANAGEMENT" ↔ p.1 = signature.CERT_EXTERNAL_MANAGEMENT_GUID) := by decide +kernel
  have tx := lookup_getD_eq_iff (d := "") (by decide +kernel) (fun p hp => (hv p hp).1) (by decide) g
  have ts := lookup_getD_eq_iff (d := "") (by decide +kernel) (fun p hp => (hv p hp).2.1) (by decide) g
  have te := lookup_getD_eq_iff (d := "") (by decide +kernel) (fun p hp => (hv p hp).2.2) (by decide) g
  have e0 : (H != 0) = decide (H.toNat ≠ 0) := u32_bne H 0 (by decide)
  have e48 : (S != 48) = decide (S.toNat ≠ 48) := u32_bne S 48 (by decide)
  have e17 : (S != 17) = decide (S.toNat ≠ 17) := u32_bne S 17 (by decide)
  -- the test on `handled`, pushed through its cases, is the same tree of decisions
  simp only [beq_iff_eq, tx, ts, te, e0, e48, e17, Impl.handled, gw_eq_iff gw_x509, gw_eq_iff gw_sha256,
    gw_eq_iff gw_external, decide_eq_true_eq, apply_ite (fun b : Bool => if b = true then fin else err),
    Bool.and_eq_true, ite_and, ite_not, Bool.false_eq_true, if_false]

/-! ### `ReadSignatureList` -/

/-- one turn of the unrolled header loop of `ReadSignatureList` (field number `i`), `R` being what
    `binary.Read` returned and `k` the rest of the function: a read that succeeded goes on; a failed one ends
    the function — `io.EOF` is passed on from the first field only, everything else becomes a wrapped
    `io.ErrUnexpectedEOF` -/
theorem hdr_step {α : Type} {R : List UInt8 × List UInt8 × GoErr} {r : Except RErr (Bytes × Bytes)}
    (hR : R = match r with
      | .ok (a, t) => (a, t, none)
      | .error e => ([], [], some (if e = .eof then "io.EOF" else "io.ErrUnexpectedEOF")))
    (i : Int) (z : α) (k : List UInt8 × α × GoErr) :
    (if (R.2.2 == some "io.EOF" && i == 0) = true then (R.2.1, z, R.2.2)
      else if (if (R.2.2 == some "io.EOF") = true then some "io.ErrUnexpectedEOF" else R.2.2).isSome = true then
        (R.2.1, z, goWrap (if (R.2.2 == some "io.EOF") = true then some "io.ErrUnexpectedEOF" else R.2.2))
      else k) =
    match (generalizing := false) r with
    | .ok _ => k
    | .error e => ([], z, some (if e = .eof ∧ i = 0 then "io.EOF" else "%w:io.ErrUnexpectedEOF")) := by
  subst hR
  cases r with
  | ok p => rfl
  | error e =>
    by_cases he : e = .eof
    · by_cases hi : i = 0 <;> simp [he, hi, goWrap_ueof]
    · simp [he, goWrap_ueof]

theorem hdr_check (L H S : UInt32) :
    (decide (UInt64.ofNat L.toNat < (28 : UInt64) + UInt64.ofNat H.toNat) || (((L - 28) - H) % S != 0)) = true ↔
      (L.toNat < 28 + H.toNat ∨ (L.toNat - 28 - H.toNat) % S.toNat ≠ 0) := by
  -- the comparison is made in `uint64`, where `28 + H` does not wrap
  have h64 (x : UInt32) : (UInt64.ofNat x.toNat).toNat = x.toNat := by
    rw [UInt64.toNat_ofNat']; exact Nat.mod_eq_of_lt (Nat.lt_trans x.toNat_lt (by decide))
  have h64b : ((28 : UInt64) + UInt64.ofNat H.toNat).toNat = 28 + H.toNat := by
    rw [UInt64.toNat_add, h64]
    exact Nat.mod_eq_of_lt (Nat.lt_trans (Nat.add_lt_add_left H.toNat_lt 28) (by decide))
  rw [Bool.or_eq_true, decide_eq_true_eq, UInt64.lt_iff_toNat_lt, h64, h64b,
    show ((L - 28 - H) % S != 0) = _ from u32_bne _ 0 (by decide), decide_eq_true_eq]
  by_cases hlt : L.toNat < 28 + H.toNat
  · exact iff_of_true (.inl hlt) (.inl hlt)
  · -- and when it passes, neither `uint32` subtraction wraps
    have hle := Nat.not_lt.mp hlt
    have h28 : (28 : UInt32) ≤ L := UInt32.le_iff_toNat_le.mpr (Nat.le_trans (Nat.le_add_right 28 _) hle)
    have e1 : (L - 28).toNat = L.toNat - 28 := UInt32.toNat_sub_of_le _ _ h28
    have hH' : H ≤ L - 28 := by rw [UInt32.le_iff_toNat_le, e1]; exact Nat.le_sub_of_add_le' hle
    rw [UInt32.toNat_mod, UInt32.toNat_sub_of_le _ _ hH', e1]

/-- `ReadSignatureList` in the model's terms: its four header reads are `Impl.readHeader` (a clean end of
    input in front of the first field is `io.EOF` itself, every other short read a wrapped
    `io.ErrUnexpectedEOF`), its checks and its per-type `switch` are the model's, and what remains is the
    entry loop `parseList` -/
theorem RSL_eq (fuel : Nat) (f : List UInt8) :
    signature.ReadSignatureList fuel f =
      match Impl.readHeader f with
      | .error e => ([], zeroL, some (if e = .eof then "io.EOF" else "%w:io.ErrUnexpectedEOF"))
      | .ok ((ty, L, H, S), r4) =>
        let s : signature.SignatureList := ⟨decLE_util_EFIGUID ty, .ofNat L, .ofNat H, .ofNat S, [], []⟩
        if (S < 16 ∨ L < 28 + H ∨ (L - 28 - H) % S ≠ 0) ∨ Impl.handled ty H S = false then
          (r4, zeroL, some "fmt.Errorf")
        else
          let r := signature.ReadSignatureList.parseList fuel s r4 (s.ListSize - 28) [] s.Size
          if r.2.2.2.isSome then (r.1, zeroL, r.2.2.2) else (r.1, { s with Signatures := r.2.2.1 }, none) := by
  unfold signature.ReadSignatureList
  -- the `let`s of the generated body become local definitions (named in the order the generated function
  -- has them), so the goal is the bare control structure of the Go function and unfolding duplicates nothing;
  -- each read is then decided by the `readN` the model does at the same place
  extract_lets s0 r1 f1 s1 err1 eu j2 err2 r3 f3 s3 err3 j4 err4 r5 f5 s5 err5 j6 err6 r7 f7 s7 err7 j8 err8 sigData0
    err_10 totalSize0 sig tag r10 f10 totalSize1 sigData1 err_11 s8
  have e1 : r1 = _ := GenCodec.readBytes_readN 16 f
  rw [hdr_step e1]
  cases h1 : readN 16 f with
  | error e => simp [Impl.readHeader, h1, zeroL, zeroGuid]
  | ok p1 =>
    obtain ⟨ty, t1⟩ := p1
    simp only [h1] at e1
    have e3 : r3 = _ := GenCodec.readBytes_readN 4 f1
    simp only [f1, e1] at e3
    rw [hdr_step e3]
    cases h2 : readN 4 t1 with
    | error e => simp [Impl.readHeader, h1, h2, zeroL, zeroGuid]
    | ok p2 =>
      obtain ⟨a, t2⟩ := p2
      simp only [h2] at e3
      have e5 : r5 = _ := GenCodec.readBytes_readN 4 f3
      simp only [f3, e3] at e5
      rw [hdr_step e5]
      cases h3 : readN 4 t2 with
      | error e => simp [Impl.readHeader, h1, h2, h3, zeroL, zeroGuid]
      | ok p3 =>
        obtain ⟨b, t3⟩ := p3
        simp only [h3] at e5
        have e7 : r7 = _ := GenCodec.readBytes_readN 4 f5
        simp only [f5, e5] at e7
        rw [hdr_step e7]
        cases h4 : readN 4 t3 with
        | error e => simp [Impl.readHeader, h1, h2, h3, h4, zeroL, zeroGuid]
        | ok p4 =>
          obtain ⟨c, t4⟩ := p4
          simp only [h4] at e7
          have hh : Impl.readHeader f = .ok ((ty, rd32 a, rd32 b, rd32 c), t4) := by
            simp only [Impl.readHeader, h1, h2, h3, h4]
          have es : s7 = ⟨decLE_util_EFIGUID ty, decLE32 a, decLE32 b, decLE32 c, [], []⟩ := by
            simp only [s7, s5, s3, s1, s0, e1, e3, e5, e7, Option.isNone_none, if_true]
          have la := GenCodec.decLE32_toNat a (readN_ok h2).2
          have lb := GenCodec.decLE32_toNat b (readN_ok h3).2
          have lc := GenCodec.decLE32_toNat c (readN_ok h4).2
          have hg := (decGuid_ok ty (readN_ok h1).2).2
          have c1 : decLE32 c < util.SizeofEFIGUID ↔ (decLE32 c).toNat < 16 := UInt32.lt_iff_toNat_lt
          have c2 := hdr_check (decLE32 a) (decLE32 b) (decLE32 c)
          -- the model's header in the decoder's terms, the decoder's checks and `switch` in the model's
          simp only [hh, ← la, ← lb, ← lc, UInt32.ofNat_toNat, sig, tag, es, f7, e7, dispatch_eq, hg,
            signature.SizeofSignatureList, c1, c2, decide_eq_true_eq, f10, err_11, s8, sigData1, r10, totalSize0,
            sigData0, zeroL, zeroGuid]
          exact ite_guards _ _ _

/-- with fuel for the entry loop, `ReadSignatureList` walks the cases of `Impl.readList`, with the Go function's
    answers in their places -/
theorem RSL_closed (fuel : Nat) (f : List UInt8) (hf : f.length ≤ fuel + 27) :
    signature.ReadSignatureList fuel f =
      match Impl.readHeader f with
      | .error e => ([], zeroL, some (if e = .eof then "io.EOF" else "%w:io.ErrUnexpectedEOF"))
      | .ok ((ty, L, H, S), r4) =>
        if (S < 16 ∨ L < 28 + H ∨ (L - 28 - H) % S ≠ 0) ∨ Impl.handled ty H S = false then
          (r4, zeroL, some "fmt.Errorf")
        else match Impl.readSigs S ((L - 28) / S) r4 with
          | .error _ => ([], zeroL, some "%w:io.ErrUnexpectedEOF")
          | .ok (ss, rest) =>
            (rest, ⟨decLE_util_EFIGUID ty, .ofNat L, .ofNat H, .ofNat S, [], ss.map unabsSD⟩, none) := by
  rw [RSL_eq]
  cases hh : Impl.readHeader f with
  | error e => rfl
  | ok p =>
    obtain ⟨⟨ty, L, H, S⟩, r4⟩ := p
    obtain ⟨hl, -, bL, bS⟩ := Impl.readHeader_bounds hh
    dsimp only
    by_cases hc : (S < 16 ∨ L < 28 + H ∨ (L - 28 - H) % S ≠ 0) ∨ Impl.handled ty H S = false
    · rw [if_pos hc, if_pos hc]
    rw [if_neg hc, if_neg hc]
    simp only [not_or, Nat.not_lt, Decidable.not_not, Bool.not_eq_false] at hc
    obtain ⟨⟨c1, c2a, c2b⟩, hhd⟩ := hc
    rw [Impl.handled_hdr hhd, Nat.add_zero] at c2a
    rw [Impl.handled_hdr hhd, Nat.sub_zero] at c2b
    have eS : (UInt32.ofNat S).toNat = S := UInt32.toNat_ofNat_of_lt' bS
    -- the entry loop is asked for `(L - 28) / S` entries: `totalSize` goes down by `S` a turn and `S ∣ L - 28`
    have eL : (UInt32.ofNat L - 28).toNat = (L - 28) / S * S := by
      rw [Nat.div_mul_cancel (Nat.dvd_of_mod_eq_zero c2b), UInt32.toNat_sub_of_le _ _
        (by rw [UInt32.le_iff_toNat_le, UInt32.toNat_ofNat_of_lt' bL]; exact c2a),
        UInt32.toNat_ofNat_of_lt' bL]; rfl
    have hsp := parseLoop_spec ⟨decLE_util_EFIGUID ty, .ofNat L, .ofNat H, .ofNat S, [], []⟩
      (.ofNat S) rfl (by rw [eS]; exact c1) fuel ((L - 28) / S) r4 (.ofNat L - 28) [] (by rw [eS]; exact eL)
      (by omega)
    rw [eS] at hsp
    rw [parseList_eq]
    cases hrs : Impl.readSigs S ((L - 28) / S) r4 with
    | error e =>
      rw [hrs] at hsp
      obtain ⟨t', ht'⟩ := hsp
      rw [ht']
      rfl
    | ok q =>
      rw [hrs] at hsp
      rw [hsp]
      rfl

/-- the fuel is used by the entry loop only, and that has enough as soon as it exceeds what is left to read -/
theorem RSL_fuel (n m : Nat) (f : List UInt8) (hn : f.length ≤ n + 27) (hm : f.length ≤ m + 27) :
    signature.ReadSignatureList n f = signature.ReadSignatureList m f := by
  rw [RSL_closed n f hn, RSL_closed m f hm]

theorem errIs_errorf : errIs (some "fmt.Errorf") "io.EOF" = false := by decide

/-- `ReadSignatureList` against `Impl.readList`, with what it leaves of the reader -/
theorem RSL_spec (fuel : Nat) (f : List UInt8) (hf : f.length ≤ fuel + 27) :
    match Impl.readList f with
    | .cleanEof => signature.ReadSignatureList fuel f = ([], zeroL, some "io.EOF")
    | .bad => ∃ f' e, signature.ReadSignatureList fuel f = (f', zeroL, some e) ∧ errIs (some e) "io.EOF" = false
    | .ok l rest => ∃ gl, signature.ReadSignatureList fuel f = (rest, gl, none) ∧ absL gl = l ∧ ListOK gl ∧
        rest.length + 28 ≤ f.length := by
  rw [RSL_closed fuel f hf, Impl.readList]
  cases hh : Impl.readHeader f with
  | error e =>
    cases e
    · rfl
    · exact ⟨_, _, rfl, errIs_wueof⟩
    · exact ⟨_, _, rfl, errIs_wueof⟩
  | ok p =>
    obtain ⟨⟨ty, L, H, S⟩, r4⟩ := p
    obtain ⟨hl, hty, bL, bS⟩ := Impl.readHeader_bounds hh
    dsimp only
    by_cases hc : S < 16 ∨ L < 28 + H ∨ (L - 28 - H) % S ≠ 0
    · rw [if_pos hc, if_pos (Or.inl hc)]; exact ⟨_, _, rfl, errIs_errorf⟩
    rw [if_neg hc]
    cases hhd : Impl.handled ty H S with
    | false => simp only [Bool.not_false, if_true, or_true]; exact ⟨_, _, rfl, errIs_errorf⟩
    | true =>
      simp only [Bool.not_true, Bool.false_eq_true, if_false, hc, reduceCtorEq, or_self]
      cases hrs : Impl.readSigs S ((L - 28) / S) r4 with
      | error e => exact ⟨_, _, rfl, errIs_wueof⟩
      | ok q =>
        obtain ⟨ss, rest⟩ := q
        obtain ⟨e, _, w⟩ := Impl.readSigs_ok (Nat.not_lt.mp fun h => hc (.inl h)) hrs
        refine ⟨_, rfl, ?_, ⟨(decGuid_ok ty hty).1, ?_⟩, ?_⟩
        · simp only [absL, (decGuid_ok ty hty).2, UInt32.toNat_ofNat_of_lt' bL, UInt32.toNat_ofNat_of_lt' bS,
            Impl.handled_hdr hhd, List.map_map]
          congr 1
          exact (List.map_congr_left fun s hs => (absSD_unabsSD (w s hs).1).1).trans (List.map_id' ss)
        · intro x hx
          obtain ⟨s, hs, rfl⟩ := List.mem_map.mp hx
          exact (absSD_unabsSD (w s hs).1).2
        · rw [← hl, e]; simp

theorem RSL_consumes (fuel : Nat) (f : List UInt8) (hf : f.length ≤ fuel + 27)
    (h : (signature.ReadSignatureList fuel f).2.2.isSome = false) :
    (signature.ReadSignatureList fuel f).1.length + 28 ≤ f.length := by
  have := RSL_spec fuel f hf
  split at this
  · rw [this] at h; cases h
  · obtain ⟨f', e, he, _⟩ := this
    rw [he] at h; cases h
  · obtain ⟨gl, e, _, _, hl⟩ := this
    rw [e]; exact hl

/-! ### the `ReadSignatureDatabase` loop -/

theorem dbLoop_succ (n : Nat) (f : List UInt8) (acc : List signature.SignatureList) :
    signature.ReadSignatureDatabase.loop1 (n + 1) f acc =
      if errIs (signature.ReadSignatureList n f).2.2 "io.EOF" = true then
        Loop.done ((signature.ReadSignatureList n f).1, acc)
      else if (signature.ReadSignatureList n f).2.2.isSome = true then
        Loop.ret ((signature.ReadSignatureList n f).1, acc, goWrap (signature.ReadSignatureList n f).2.2)
      else signature.ReadSignatureDatabase.loop1 n (signature.ReadSignatureList n f).1
        (acc ++ [(signature.ReadSignatureList n f).2.1]) := by
  rw [signature.ReadSignatureDatabase.loop1]

theorem dbLoop_spec (n : Nat) (f : List UInt8) (acc : List signature.SignatureList) (hf : f.length + 1 ≤ n) :
    match Impl.readDbAux n f with
    | some db => ∃ gdb, signature.ReadSignatureDatabase.loop1 n f acc = Loop.done ([], acc ++ gdb) ∧
        absDb gdb = db ∧ DbOK gdb
    | none => ∃ f' g e, signature.ReadSignatureDatabase.loop1 n f acc = Loop.ret (f', g, some e) := by
  induction n generalizing f acc with
  | zero => exact absurd hf (Nat.not_succ_le_zero _)
  | succ n ih =>
    rw [dbLoop_succ]
    simp only [Impl.readDbAux]
    have hsp := RSL_spec n f (Nat.le_add_right_of_le (Nat.le_of_succ_le_succ hf))
    generalize Impl.readList f = r at hsp ⊢
    cases r with
    | cleanEof =>
      simp only [hsp, errIs_eof, if_true]
      exact ⟨[], by simp, rfl, by intro l hl; simp at hl⟩
    | bad =>
      obtain ⟨f', e, he, hne⟩ := hsp
      simp only [he, hne, Bool.false_eq_true, if_false, Option.isSome_some, if_true]
      exact ⟨_, _, _, rfl⟩
    | ok l rest =>
      obtain ⟨gl, he, hal, hok, hlen⟩ := hsp
      simp only [he, errIs_none, Bool.false_eq_true, if_false, Option.isSome_none]
      have := ih rest (acc ++ [gl]) (by omega)
      generalize Impl.readDbAux n rest = r at this ⊢
      cases r with
      | none => exact this
      | some db =>
        obtain ⟨gdb, h', ha, hk⟩ := this
        exact ⟨gl :: gdb, by rw [h']; simp, by rw [absDb_cons, hal, ha], List.forall_mem_cons.mpr ⟨hok, hk⟩⟩

theorem dbLoop_fuel (n m : Nat) (f : List UInt8) (acc : List signature.SignatureList)
    (hn : f.length + 1 ≤ n) (hm : f.length + 1 ≤ m) :
    signature.ReadSignatureDatabase.loop1 n f acc = signature.ReadSignatureDatabase.loop1 m f acc := by
  induction n generalizing m f acc with
  | zero => exact absurd hn (Nat.not_succ_le_zero _)
  | succ n ih =>
    cases m with
    | zero => exact absurd hm (Nat.not_succ_le_zero _)
    | succ m =>
      -- the body hands its fuel on to `ReadSignatureList`: a turn needs the bounds on the fuel, which `fuel_irrel`
      -- does not offer its step
      have hn' := Nat.le_add_right_of_le (k := 27) (Nat.le_of_succ_le_succ hn)
      have hm' := Nat.le_add_right_of_le (k := 27) (Nat.le_of_succ_le_succ hm)
      rw [dbLoop_succ, dbLoop_succ, RSL_fuel n m f hn' hm']
      by_cases h2 : (signature.ReadSignatureList m f).2.2.isSome = true
      · simp only [h2, if_true]
      · have := RSL_consumes m f hm' (by simpa using h2)
        rw [ih m _ _ (by omega) (by omega)]

theorem RSDB_eq (fuel : Nat) (f : List UInt8) :
    signature.ReadSignatureDatabase fuel f =
      match signature.ReadSignatureDatabase.loop1 fuel f [] with
      | Loop.ret r => r
      | Loop.done m => (m.1, m.2, none) := rfl

/-! ### encoders -/

theorem WSD_eq (b : List UInt8) (s : signature.SignatureData) :
    signature.WriteSignatureData b s = b ++ Impl.encSData (absSD s) := by
  simp [signature.WriteSignatureData, GenCodec.encLE_guid_eq, decBytes, Impl.encSData, absSD, gw]

theorem WSL_loop (sigs : List signature.SignatureData) (b : List UInt8) :
    signature.WriteSignatureList.loop1 sigs b = Loop.done (b ++ ((sigs.map absSD).map Impl.encSData).flatten) := by
  induction sigs generalizing b with
  | nil => simp [signature.WriteSignatureList.loop1]
  | cons s rest ih => simp [signature.WriteSignatureList.loop1, WSD_eq, ih]

theorem WSL_eq (b : List UInt8) (l : signature.SignatureList) :
    signature.WriteSignatureList b l = b ++ Impl.encList (absL l) := by
  simp [signature.WriteSignatureList, WSL_loop, GenCodec.encLE_guid_eq, encLE32_eq, decBytes, Impl.encList, absL, gw]

theorem WSDB_loop (db : List signature.SignatureList) (b : List UInt8) :
    signature.WriteSignatureDatabase.loop1 db b = Loop.done (b ++ Impl.encDb (absDb db)) := by
  induction db generalizing b with
  | nil => simp [signature.WriteSignatureDatabase.loop1, Impl.encDb, absDb]
  | cons l rest ih =>
    simp [signature.WriteSignatureDatabase.loop1, WSL_eq, ih, absDb, Impl.encDb]

theorem WSDB_eq (b : List UInt8) (db : signature.SignatureDatabase) :
    signature.WriteSignatureDatabase b db = b ++ Impl.encDb (absDb db) := by
  simp [signature.WriteSignatureDatabase, WSDB_loop]

theorem signature.SignatureList.Bytes_eq (l : signature.SignatureList) : l.Bytes = Impl.encList (absL l) := by
  simp [signature.SignatureList.Bytes, WSL_eq]

theorem signature.SignatureDatabase.Marshal_eq (sd : signature.SignatureDatabase) (b : List UInt8) :
    sd.Marshal b = b ++ Impl.encDb (absDb sd) := by
  simp [signature.SignatureDatabase.Marshal, WSDB_eq]

theorem signature.SignatureDatabase.Bytes_eq (sd : signature.SignatureDatabase) :
    sd.Bytes = Impl.encDb (absDb sd) := by
  simp [signature.SignatureDatabase.Bytes, WSDB_eq]

end GoUefi.Gen

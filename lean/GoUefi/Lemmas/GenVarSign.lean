import GoUefi.Gen
/-!
  The name loop of the translated `signature.SignEFIVariable` (efi/signature/varsign.go), for `Properties/C06g.lean`.
-/
namespace GoUefi.GenVarSign
open GoUefi GoUefi.Gen

/-- `for _, n := range []byte(v.Name) { s = append(s, n, 0x00) }` -/
theorem loop1_eq (X : signature.Externals) (l s : List UInt8) :
    signature.SignEFIVariable.loop1 X l s = Loop.done (s ++ l.flatMap fun b => [b, 0]) := by
  induction l generalizing s with
  | nil => rw [signature.SignEFIVariable.loop1, List.flatMap_nil, List.append_nil]
  | cons a l ih =>
    rw [signature.SignEFIVariable.loop1, ih, List.flatMap_cons, List.append_assoc]

theorem decU8_encU8 (v : UInt8) : decU8 (encU8 v) = v := rfl

end GoUefi.GenVarSign

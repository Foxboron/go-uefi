import GoUefi.Model.VarSign
import GoUefi.Lemmas.Utf16
import GoUefi.Lemmas.Pkcs7Sign
import GoUefi.Lemmas.DerInv
import GoUefi.Lemmas.AuthDesc
/-!
  Helper lemmas for C06: `signature.SignEFIVariable` (`GoUefi/Model/VarSign.lean`) writes
  EFI_TIME ‖ WIN_CERTIFICATE_UEFI_GUID header ‖ the *bare* SignedData ‖ payload, and the bare
  SignedData is a detached signature over the signed buffer.
-/
namespace GoUefi.Impl
open GoUefi GoUefi.Der

@[simp] theorem efiTime_length (t : Civil) : (efiTime t).length = 16 := rfl

/-! ### the name as UTF-16LE -/

/-- a byte, read as the scalar value U+0000..U+00FF, is one UTF-16 code unit: the byte, then 0x00 -/
theorem byte_unit (b : UInt8) : unitsToBytes (encChar (Char.ofNat b.toNat)) = [b, 0] := by
  have hb := b.toNat_lt
  rw [encChar, toNat_ofNat_valid _ (Or.inl (by omega)), if_pos (by omega)]
  show [(b.toNat % 256).toUInt8, (b.toNat / 256 % 256).toUInt8] = _
  rw [Nat.mod_eq_of_lt hb, Nat.div_eq_of_lt hb, toNat_toUInt8]
  rfl

theorem name_utf16 (name : Bytes) :
    name.flatMap (fun b => [b, 0]) =
      unitsToBytes (utf16enc (name.map fun b => Char.ofNat b.toNat)) := by
  induction name with
  | nil => rfl
  | cons b bs ih =>
    simp only [utf16enc, List.map_cons, List.flatMap_cons] at ih ⊢
    rw [unitsToBytes_append, byte_unit, ih]

theorem name_flat_length (name : Bytes) : (name.flatMap fun b => [b, (0 : UInt8)]).length = 2 * name.length := by
  rw [List.flatMap_def, length_flatten_map _ name (n := 2) (fun _ _ => rfl), Nat.mul_comm]

/-! ### `SignEFIVariable` -/

/-- arguments of `varSign` -/
structure VarSignInputs where
  name : Bytes
  guid : Bytes
  attrs : Nat
  t : Civil
  payload : Bytes
  certRaw : Bytes
  issuerRaw : Bytes
  serial : Nat
  timeText : Bytes
  md : Bytes
  sig : Bytes

/-- the buffer that is signed -/
def VarSignInputs.buf (x : VarSignInputs) : Bytes :=
  signedBuffer x.name x.guid x.attrs (efiTime x.t) x.payload

/-- the arguments of the inner `SignPKCS7` call: content type id-data over the signed buffer -/
def VarSignInputs.sign (x : VarSignInputs) : SignInputs :=
  ⟨oidData, x.buf, x.certRaw, x.issuerRaw, x.serial, x.timeText, x.md, x.sig⟩

def VarSignInputs.run (x : VarSignInputs) : Option Bytes :=
  varSign x.name x.guid x.attrs x.t x.payload x.certRaw x.issuerRaw x.serial x.timeText x.md x.sig

/-- Hypotheses of C06: exactly those of `SignInputs.WF` for the inner `SignPKCS7` call with
    `oid = oidData` (whose two OID conditions hold by evaluation) and `content = buf`; no condition
    on the opaque `x509.ParseCertificates` is needed, nothing is parsed back by the library. -/
structure VarSignInputs.WF (x : VarSignInputs) : Prop where
  bufLen : x.buf.length < 2^24
  certLen : x.certRaw.length < 2^24
  issuerLen : x.issuerRaw.length < 2^24
  serialLen : (natBytes x.serial).length < 2^24
  mdLen : x.md.length < 2^24
  sigLen : x.sig.length < 2^24
  /-- the issuer is one SEQUENCE element (an X.501 Name) -/
  issuerSeq : ∃ body, x.issuerRaw = addASN1 tSEQ body
  /-- the UTCTime text re-serialises to itself (it carries seconds) -/
  timeOk : parseUTC x.timeText = some x.timeText

/-- what the Go types `EFIGUID`, `uint32` and `EFITime` can hold (no theorem assumes it: the model computes in `Nat`) -/
structure VarSignInputs.InRange (x : VarSignInputs) : Prop where
  guidLen : x.guid.length = 16
  attrsLt : x.attrs < 2^32
  year : x.t.year < 2^16
  month : x.t.month < 256
  day : x.t.day < 256
  hour : x.t.hour < 256
  minute : x.t.minute < 256
  second : x.t.second < 256

theorem VarSignInputs.WF.toSign {x : VarSignInputs} (h : x.WF) : x.sign.WF (fun _ => true) :=
  ⟨show oidArcsOk oidData = true by decide, show (oidOr oidData).length < 2^24 by decide, h.bufLen, h.certLen,
    h.issuerLen, h.serialLen, h.mdLen, h.sigLen, h.issuerSeq, h.timeOk, rfl⟩

/-- the bare SignedData of these inputs -/
def VarSignInputs.sd (x : VarSignInputs) : Bytes := x.sign.bare

theorem VarSignInputs.sd_length (x : VarSignInputs) (h : x.WF) : 24 + x.sd.length < 2^32 := by
  have := bare_length_le x.sign _ h.toSign
  unfold VarSignInputs.sd; omega

theorem VarSignInputs.signPKCS7_eq (x : VarSignInputs) :
    signPKCS7 oidData x.buf x.certRaw x.issuerRaw x.serial x.timeText x.md x.sig =
      some (addASN1 tSEQ (oidOr oidSignedData ++ addASN1 tCtx0 x.sd)) := by
  have := signPKCS7_blob x.sign (show validOID oidData = true by decide)
  rw [blob_eq_bare] at this
  exact this

/-- the `sd` in the shape `signPKCS7 … = some (SEQUENCE { oid, [0] sd })` is determined: a DER element determines
    its body -/
theorem VarSignInputs.sd_unique (x : VarSignInputs) (sd : Bytes)
    (hs : signPKCS7 oidData x.buf x.certRaw x.issuerRaw x.serial x.timeText x.md x.sig =
      some (addASN1 tSEQ (oidOr oidSignedData ++ addASN1 tCtx0 sd))) : sd = x.sd := by
  rw [x.signPKCS7_eq, Option.some.injEq] at hs
  exact (addASN1_inj (List.append_cancel_left (addASN1_inj hs).2)).2.symm

/-- `SignEFIVariable` ‖ payload, in closed form -/
theorem VarSignInputs.run_eq (x : VarSignInputs) (h : x.WF) :
    x.run = some (efiTime x.t ++ le32 (24 + x.sd.length) ++ le16 0x0200 ++ le16 0x0EF1 ++
      guidPkcs7 ++ x.sd ++ x.payload) := by
  have hl : (addASN1 tSEQ (oidOr oidSignedData ++ addASN1 tCtx0 x.sd)).length < 2^32 :=
    blob_length_lt x.sign _ h.toSign
  have hu : unwrapContentInfo (addASN1 tSEQ (oidOr oidSignedData ++ addASN1 tCtx0 x.sd)) = some x.sd := by
    unfold unwrapContentInfo
    rw [parseContentInfo_present_nil oidSignedData x.sd (by decide) (Fits.body hl)]
  have hs := x.signPKCS7_eq
  unfold VarSignInputs.buf at hs
  unfold VarSignInputs.run varSign
  rw [hs]
  simp only [hu, writeWinCert, le32_mod, List.append_nil, winCertRevision, winCertTypeEfiGuid,
    List.append_assoc]

/-- toy inputs for the non-vacuity examples of C06: variable "db", the image-security-database
    GUID d719b2cb-3d3a-4596-a3bc-dad00e67656f, attributes 0x27, 2026-09-29 20:30:00 UTC, a 76-byte
    payload, the toy certificate fields of `SignInputs.sample` -/
def VarSignInputs.sample : VarSignInputs :=
  { name := [0x64, 0x62],
    guid := [0xcb, 0xb2, 0x19, 0xd7, 0x3a, 0x3d, 0x96, 0x45, 0xa3, 0xbc, 0xda, 0xd0, 0x0e, 0x67, 0x65, 0x6f],
    attrs := 0x27, t := ⟨2026, 9, 29, 20, 30, 0⟩, payload := List.replicate 76 0x5a,
    certRaw := [0x30, 0], issuerRaw := [0x30, 0], serial := 0x1234,
    timeText := [0x32, 0x36, 0x30, 0x39, 0x32, 0x39, 0x32, 0x30, 0x33, 0x30, 0x30, 0x30, 0x5a],
    md := [9, 9], sig := [7] }

/-- the model's output for the toy inputs, evaluated once -/
theorem VarSignInputs.sample_run :
    varSign sample.name sample.guid sample.attrs sample.t sample.payload sample.certRaw sample.issuerRaw
      sample.serial sample.timeText sample.md sample.sig =
    some (efiTime sample.t ++ [0xbd, 0, 0, 0] ++ [0x00, 0x02] ++ [0xf1, 0x0e] ++ guidPkcs7 ++
      sample.sd ++ sample.payload) := by decide +kernel

end GoUefi.Impl

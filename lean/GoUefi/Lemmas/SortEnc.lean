import GoUefi.Model.Pkcs7
/-!
  `sortEnc` (`GoUefi/Model/Pkcs7.lean`, the stable sort of the attribute encodings in
  `Attributes.Marshal`, F19) returns a permutation of its input in non-decreasing `bytes.Compare`
  order.  `bytesLt a b` is `bytes.Compare a b < 0`; "`a ≤ b`" is written `bytesLt b a = false`.
-/
namespace GoUefi.Impl
open GoUefi

/-! ### `bytesLt` is the lexicographic order of core: irreflexive, asymmetric, `≤` transitive and total -/

theorem bytesLt_iff : ∀ {a b : Bytes}, bytesLt a b = true ↔ a < b
  | [], [] => by simp [bytesLt]
  | [], _ :: _ => by simp [bytesLt]
  | _ :: _, [] => by simp [bytesLt]
  | x :: xs, y :: ys => by
    rw [bytesLt, List.cons_lt_cons_iff, ← bytesLt_iff (a := xs) (b := ys)]
    by_cases h1 : x < y
    · simp [h1]
    · by_cases h2 : y < x
      · have : x ≠ y := fun e => by subst e; exact h1 h2
        simp [h1, h2, this]
      · have : x = y := UInt8.le_antisymm (UInt8.not_lt.mp h2) (UInt8.not_lt.mp h1)
        simp [this]

theorem bytesLe_iff {a b : Bytes} : bytesLt b a = false ↔ a ≤ b := by
  rw [← Bool.not_eq_true, bytesLt_iff]
  exact Iff.rfl

theorem bytesLt_irrefl (a : Bytes) : bytesLt a a = false := bytesLe_iff.mpr (List.le_refl a)

theorem bytesLt_asymm {a b : Bytes} (h : bytesLt a b = true) : bytesLt b a = false :=
  Bool.eq_false_iff.mpr fun h' => List.lt_asymm (bytesLt_iff.mp h) (bytesLt_iff.mp h')

theorem bytesLe_trans {a b c : Bytes} (hab : bytesLt b a = false) (hbc : bytesLt c b = false) :
    bytesLt c a = false :=
  bytesLe_iff.mpr (List.le_trans (bytesLe_iff.mp hab) (bytesLe_iff.mp hbc))

theorem bytesLe_total (a b : Bytes) : bytesLt b a = false ∨ bytesLt a b = false := by
  cases h : bytesLt b a with
  | false => exact Or.inl rfl
  | true => exact Or.inr (bytesLt_asymm h)

/-! ### insertion sort -/

theorem insertEnc_perm (e : Bytes) (l : List Bytes) : (insertEnc e l).Perm (e :: l) := by
  induction l with
  | nil => exact List.Perm.refl _
  | cons x xs ih =>
    unfold insertEnc
    split
    · exact (List.Perm.cons x ih).trans (List.Perm.swap e x xs)
    · exact List.Perm.refl _

theorem sortEnc_cons (e : Bytes) (l : List Bytes) : sortEnc (e :: l) = insertEnc e (sortEnc l) := rfl

theorem sortEnc_perm (l : List Bytes) : (sortEnc l).Perm l := by
  induction l with
  | nil => exact List.Perm.refl _
  | cons x xs ih =>
    rw [sortEnc_cons]
    exact (insertEnc_perm x _).trans (List.Perm.cons x ih)

theorem insertEnc_sorted (e : Bytes) (l : List Bytes)
    (h : l.Pairwise (fun a b => bytesLt b a = false)) :
    (insertEnc e l).Pairwise (fun a b => bytesLt b a = false) := by
  induction l with
  | nil => simp [insertEnc]
  | cons x xs ih =>
    rw [List.pairwise_cons] at h
    unfold insertEnc
    split
    · next hlt =>
      rw [List.pairwise_cons]
      refine ⟨fun y hy => ?_, ih h.2⟩
      rcases List.mem_cons.mp ((insertEnc_perm e xs).mem_iff.mp hy) with rfl | hy'
      · exact bytesLt_asymm hlt
      · exact h.1 y hy'
    · next hge =>
      have hge' : bytesLt x e = false := by simpa using hge
      rw [List.pairwise_cons]
      refine ⟨fun y hy => ?_, List.pairwise_cons.mpr h⟩
      rcases List.mem_cons.mp hy with rfl | hy'
      · exact hge'
      · exact bytesLe_trans hge' (h.1 y hy')

theorem sortEnc_sorted (l : List Bytes) : (sortEnc l).Pairwise (fun a b => bytesLt b a = false) := by
  induction l with
  | nil => exact List.Pairwise.nil
  | cons x xs ih =>
    rw [sortEnc_cons]
    exact insertEnc_sorted x _ ih

end GoUefi.Impl

import GoUefi.Model.AuthDesc
import GoUefi.Lemmas.Outcome
/- C10: each WIN_CERTIFICATE / EFI_VARIABLE_AUTHENTICATION_2 reader is the partial inverse of
   its writer, defined exactly on the encodings of well-formed values; the writer emits the specified layout
   (`Spec.encAuth`), which its own decoder reads back -/
namespace GoUefi

instance Spec.Auth.decWF (a : Spec.Auth) : Decidable a.WF := by unfold Spec.Auth.WF; exact inferInstance

namespace Impl

/-- the WIN_CERTIFICATEs that `readWinCert` produces and `writeWinCert` round-trips -/
def WinCert.WF (w : WinCert) : Prop :=
  w.length = 8 + w.cert.length ∧ w.length < 2^32 ∧ w.rev = winCertRevision ∧ w.ctype < 2^16

/-- `ReadWinCertificate` returns, and what it returns is well-formed and re-encodes to what was consumed -/
theorem readWinCert_ensures (bs : Bytes) :
    (readWinCert bs).Ensures fun p => p.1.WF ∧ bs = writeWinCert p.1 ++ p.2 :=
  .readN fun l r1 e1 hl => .readN fun rv r2 e2 hrv => .readN fun ct r3 e3 hct =>
    .guard fun hrev => .guard fun h8 => .guard fun hb => .ok (by
      subst e1 e2 e3
      refine ⟨⟨?_, rd32_lt l, Decidable.not_not.mp hrev, rd16_lt ct⟩, ?_⟩
      · rw [List.length_take_of_le (Nat.not_lt.mp hb), Nat.add_sub_cancel' (Nat.not_lt.mp h8)]
      · simp only [writeWinCert, le32_rd32 l hl, le16_rd16 rv hrv, le16_rd16 ct hct, List.append_assoc,
          List.take_append_drop])

theorem readWinCert_eq_ok {bs : Bytes} {w : WinCert} {rest : Bytes} :
    readWinCert bs = .ok (w, rest) ↔ w.WF ∧ bs = writeWinCert w ++ rest := by
  refine ⟨(readWinCert_ensures bs).of_ok, ?_⟩
  rintro ⟨⟨hlen, hlt, hrev, hct⟩, rfl⟩
  have hr : w.rev < 2^16 := by rw [hrev]; decide
  unfold readWinCert writeWinCert
  simp only [List.append_assoc, readN_len (n := 4) (le32 _) _ rfl, readN_len (n := 2) (le16 _) _ rfl,
    rd32_le32 _ hlt, rd16_le16 _ hr, rd16_le16 _ hct]
  have hbody : w.length - 8 = w.cert.length := by rw [hlen, Nat.add_sub_cancel_left]
  have h8 : 8 ≤ w.length := hlen ▸ Nat.le_add_right 8 _
  rw [if_neg (Decidable.not_not.mpr hrev), if_neg (Nat.not_lt.mpr h8), hbody, List.length_append,
    if_neg (Nat.not_lt.mpr (Nat.le_add_right _ _)), List.take_left' rfl, List.drop_left' rfl]

theorem writeWinCert_readWinCert {bs : Bytes} {w : WinCert} {rest : Bytes}
    (h : readWinCert bs = .ok (w, rest)) : writeWinCert w ++ rest = bs :=
  (readWinCert_eq_ok.mp h).2.symm

theorem writeWinCert_length (w : WinCert) : (writeWinCert w).length = 8 + w.cert.length := by
  simp only [writeWinCert, List.length_append, le32_length, le16_length]

theorem WinCert.WF.length_eq {w : WinCert} (h : w.WF) : (writeWinCert w).length = w.length :=
  (writeWinCert_length w).trans h.1.symm

theorem readWinCert_size {bs : Bytes} {w : WinCert} {rest : Bytes} (h : readWinCert bs = .ok (w, rest)) :
    8 + w.cert.length + rest.length = bs.length ∧ w.length = 8 + w.cert.length := by
  obtain ⟨⟨hlen, _⟩, rfl⟩ := readWinCert_eq_ok.mp h
  rw [List.length_append, writeWinCert_length]
  exact ⟨rfl, hlen⟩

/-- `ReadWinCertificateUEFIGUID` returns; the body of the certificate it read is the type GUID followed by the data -/
theorem readWinCertGuid_ensures (bs : Bytes) :
    (readWinCertGuid bs).Ensures fun p => p.1.hdr.cert = [] ∧ p.1.certType.length = 16 ∧
      p.1.hdr.length = 24 + p.1.data.length ∧ p.1.hdr.length < 2^32 ∧ p.1.hdr.rev = winCertRevision ∧
      bs = writeWinCertGuid p.1 ++ p.2 := by
  unfold readWinCertGuid
  exact (readWinCert_ensures bs).elim (fun p ⟨⟨hlen, hlt, hrev, _⟩, e⟩ => .guard fun h16 => .ok (by
    refine ⟨rfl, ?_, ?_, hlt, hrev, ?_⟩
    · exact List.length_take_of_le (Nat.not_lt.mp h16)
    · obtain ⟨k, hk⟩ := Nat.exists_eq_add_of_le (Nat.not_lt.mp h16)
      rw [hlen, List.length_drop, hk, Nat.add_sub_cancel_left, ← Nat.add_assoc]
    · simp only [e, writeWinCertGuid, writeWinCert, List.append_assoc, List.nil_append,
        List.take_append_drop])) .err

/-- the well-formedness of descriptors that the reader produces and the writer round-trips -/
def AuthDesc.WF (d : AuthDesc) : Prop :=
  d.time.length = 16 ∧ d.auth.certType.length = 16 ∧ d.auth.hdr.cert = [] ∧
  d.auth.hdr.length = 24 + d.auth.data.length ∧ d.auth.hdr.length < 2^32 ∧
  d.auth.hdr.rev = winCertRevision ∧ d.auth.hdr.ctype = winCertTypeEfiGuid

instance AuthDesc.decWF (d : AuthDesc) : Decidable d.WF := by unfold AuthDesc.WF; exact inferInstance

/-- `ReadEFIVariableAuthencation2` returns, and what it returns is well-formed and re-encodes to what was consumed -/
theorem readAuth_ensures (bs : Bytes) :
    (readAuth bs).Ensures fun p => p.1.WF ∧ bs = writeAuth p.1 ++ p.2 :=
  .readN fun t r1 e1 ht => (readWinCertGuid_ensures r1).elim
    (fun p ⟨hc, hg, hlen, hlt, hrev, e⟩ => .guard fun hct => .ok
      ⟨⟨ht, hg, hc, hlen, hlt, hrev, Decidable.not_not.mp hct⟩, by rw [e1, e, writeAuth, List.append_assoc]⟩)
    .err

theorem readAuth_eq_ok {bs : Bytes} {d : AuthDesc} {rest : Bytes} :
    readAuth bs = .ok (d, rest) ↔ d.WF ∧ bs = writeAuth d ++ rest := by
  refine ⟨(readAuth_ensures bs).of_ok, ?_⟩
  rintro ⟨⟨ht, hg, hc, hlen, hlt, hrev, hct⟩, rfl⟩
  obtain ⟨t, ⟨⟨l, r, c, cert⟩, g, data⟩⟩ := d
  simp only at ht hg hc hlen hlt hrev hct
  subst hc hct
  -- the embedded WIN_CERTIFICATE as `readWinCert` sees it: its body is the type GUID followed by the data
  have hl : l = 8 + (g ++ data).length := by rw [List.length_append, hg, ← Nat.add_assoc]; exact hlen
  have hw : readWinCert (writeWinCert ⟨l, r, winCertTypeEfiGuid, g ++ data⟩ ++ rest) = .ok (_, rest) :=
    readWinCert_eq_ok.mpr ⟨⟨hl, hlt, hrev, show winCertTypeEfiGuid < 2^16 by decide⟩, rfl⟩
  have e : writeAuth ⟨t, ⟨⟨l, r, winCertTypeEfiGuid, []⟩, g, data⟩⟩ ++ rest =
      t ++ (writeWinCert ⟨l, r, winCertTypeEfiGuid, g ++ data⟩ ++ rest) := by
    simp only [writeAuth, writeWinCertGuid, writeWinCert, List.append_nil, List.append_assoc]
  rw [e]
  unfold readAuth readWinCertGuid
  simp only [readN_len _ _ ht, hw, List.length_append, hg, List.take_left' hg, List.drop_left' hg]
  rw [if_neg (Nat.not_lt.mpr (Nat.le_add_right _ _))]
  exact if_neg (Decidable.not_not.mpr rfl)

theorem readAuth_size {bs : Bytes} {d : AuthDesc} {rest : Bytes} (h : readAuth bs = .ok (d, rest)) :
    16 + 8 + 16 + d.auth.data.length + rest.length = bs.length ∧ d.time.length = 16 ∧
    d.auth.certType.length = 16 := by
  obtain ⟨⟨ht, hg, hc, _⟩, rfl⟩ := readAuth_eq_ok.mp h
  simp only [writeAuth, writeWinCertGuid, List.length_append, writeWinCert_length, ht, hg, hc, List.length_nil,
    ← Nat.add_assoc, and_self]

end Impl

/-! ### the specified layout -/

open Impl in
theorem writeAuth_eq_encAuth (d : AuthDesc) (h : d.auth.hdr.cert = []) :
    writeAuth d = Spec.encAuth ⟨d.time, d.auth.hdr.length, d.auth.hdr.rev, d.auth.hdr.ctype,
      d.auth.certType, d.auth.data⟩ := by
  simp only [writeAuth, writeWinCertGuid, writeWinCert, Spec.encAuth, h, List.append_assoc,
    List.nil_append]

theorem encAuth_length (a : Spec.Auth) (h : a.WF) : (Spec.encAuth a).length = 16 + a.dwLength := by
  obtain ⟨ht, hg, hdw, _⟩ := h
  simp only [Spec.encAuth, List.length_append, le32_length, le16_length, ht, hg, hdw]
  exact Nat.add_assoc 16 24 _

theorem decodeAuth_encAuth (a : Spec.Auth) (rest : Bytes) (h : a.WF) :
    Spec.decodeAuth (Spec.encAuth a ++ rest) = some (a, rest) := by
  have hlen : (Spec.encAuth a ++ rest).length = 16 + a.dwLength + rest.length := by
    rw [List.length_append, encAuth_length a h]
  obtain ⟨t, dw, rv, ct, g, data⟩ := a
  obtain ⟨ht, hg, hdw, hlt, hrv, hct⟩ := h
  simp only at ht hg hdw hlt hrv hct hlen
  obtain ⟨bs, e⟩ : ∃ bs, bs = t ++ (le32 dw ++ (le16 rv ++ (le16 ct ++ (g ++ (data ++ rest))))) := ⟨_, rfl⟩
  have hin : Spec.encAuth ⟨t, dw, rv, ct, g, data⟩ ++ rest = bs := by
    simp only [e, Spec.encAuth, List.append_assoc]
  rw [hin] at hlen
  -- the three length tests pass, and the data ends where the declared length says
  have hfit : ¬ bs.length < 16 + dw := Nat.not_lt.mpr (hlen ▸ Nat.le_add_right _ _)
  have h24 : 24 ≤ dw := hdw ▸ Nat.le_add_right _ _
  have h40 : ¬ bs.length < 40 := fun h => hfit (Nat.lt_of_lt_of_le h (Nat.add_le_add_left h24 16))
  have hdata : data.length = dw - 24 := by rw [hdw, Nat.add_sub_cancel_left]
  have hend : 16 + dw = 40 + (dw - 24) := by rw [← hdata, hdw]; exact (Nat.add_assoc 16 24 _).symm
  -- the fields, cut off one after the other
  have c0 : bs.take 16 = t ∧ bs.drop 16 = _ := cut_field (i := 0) e ht
  have c16 : (bs.drop 16).take 4 = le32 dw ∧ bs.drop 20 = _ := cut_field c0.2 (le32_length dw)
  have c20 : (bs.drop 20).take 2 = le16 rv ∧ bs.drop 22 = _ := cut_field c16.2 (le16_length rv)
  have c22 : (bs.drop 22).take 2 = le16 ct ∧ bs.drop 24 = _ := cut_field c20.2 (le16_length ct)
  have c24 : (bs.drop 24).take 16 = g ∧ bs.drop 40 = _ := cut_field c22.2 hg
  have c40 : (bs.drop 40).take (dw - 24) = data ∧ bs.drop (40 + (dw - 24)) = rest := cut_field c24.2 hdata
  rw [hin, Spec.decodeAuth]
  simp only [c16.1, rd32_le32 dw hlt]
  rw [if_neg h40, if_neg (Nat.not_lt.mpr h24), if_neg hfit, c0.1, c20.1, c22.1, c24.1, c40.1, hend, c40.2,
    rd16_le16 rv hrv, rd16_le16 ct hct]

end GoUefi

import GoUefi.Model.Utf16
import GoUefi.Lemmas.Bytes
import GoUefi.Lemmas.Outcome
/- UTF-16 (`Model/Utf16.lean`): decoding inverts encoding, on code units, on bytes and through `ParseUtf16Var`;
   `ReadNullString` stops behind the terminator of a marshalled string and cuts its input in two; the sizes behind
   `parseUtf16_spec` -/
namespace GoUefi

theorem char_bounds (c : Char) : c.toNat < 0xD800 ∨ (0xDFFF < c.toNat ∧ c.toNat < 0x110000) := by
  have h := c.valid
  unfold UInt32.isValidChar Nat.isValidChar at h
  exact h

theorem toNat_ofNat_valid (n : Nat) (hv : n.isValidChar) : (Char.ofNat n).toNat = n := by
  rw [Char.ofNat, dif_pos hv]
  rfl

theorem utf16dec_encChar_append (c : Char) (rest : List Nat) :
    utf16dec (encChar c ++ rest) = c :: utf16dec rest := by
  have hb := char_bounds c
  unfold encChar
  split
  · have h2 : ¬ (0xD800 ≤ c.toNat ∧ c.toNat < 0xE000) := by omega
    cases rest with
    | nil => simp only [List.append_nil, utf16dec, if_neg h2, Char.ofNat_toNat]
    | cons v rest => simp only [List.singleton_append, utf16dec, if_neg h2, Char.ofNat_toNat]
  · -- `d`: the 20 bits that the two surrogates carry, 10 each (`hhi`, `hlo`), so that the decoder's three range
    -- checks pass
    obtain ⟨d, hd⟩ : ∃ d, c.toNat = 0x10000 + d := ⟨c.toNat - 0x10000, by omega⟩
    have hhi : d / 1024 < 1024 := Nat.div_lt_of_lt_mul (by omega)
    have hlo : d % 1024 < 1024 := Nat.mod_lt d (by decide)
    rw [hd, Nat.add_sub_cancel_left, List.cons_append, List.cons_append, List.nil_append, utf16dec,
      if_pos ⟨Nat.le_add_right .., Nat.add_lt_add_left (Nat.lt_trans hhi (show 1024 < 2048 by decide)) 0xD800⟩,
      if_pos ⟨Nat.le_add_right .., Nat.add_lt_add_left hlo 0xDC00⟩, if_pos (Nat.add_lt_add_left hhi 0xD800),
      Nat.add_sub_cancel_left, Nat.add_sub_cancel_left, Nat.add_assoc, Nat.div_add_mod', ← hd, Char.ofNat_toNat]

theorem utf16dec_enc_append (s : List Char) (rest : List Nat) :
    utf16dec (utf16enc s ++ rest) = s ++ utf16dec rest := by
  induction s with
  | nil => simp [utf16enc]
  | cons c cs ih =>
    simp only [utf16enc, List.flatMap_cons, List.append_assoc] at *
    rw [utf16dec_encChar_append, ih]; rfl

theorem encChar_lt (c : Char) : ∀ u ∈ encChar c, u < 65536 := by
  unfold encChar
  split
  · next h => exact List.forall_mem_singleton.2 h
  · -- the surrogates carry 10 bits each
    have hd : (c.toNat - 0x10000) / 1024 < 1024 := Nat.div_lt_of_lt_mul (by have := char_bounds c; omega)
    have hm : (c.toNat - 0x10000) % 1024 < 1024 := Nat.mod_lt _ (by decide)
    exact List.forall_mem_cons.2 ⟨Nat.lt_trans (Nat.add_lt_add_left hd _) (by decide),
      List.forall_mem_singleton.2 (Nat.lt_trans (Nat.add_lt_add_left hm _) (by decide))⟩

theorem utf16enc_lt (s : List Char) : ∀ u ∈ utf16enc s, u < 65536 := fun u hu =>
  let ⟨c, _, h⟩ := List.mem_flatMap.mp hu
  encChar_lt c u h

theorem encChar_pos (c : Char) (hc : c ≠ '\x00') : ∀ u ∈ encChar c, 0 < u := by
  have hne : c.toNat ≠ 0 := fun h => hc (Char.toNat_inj.mp h)
  unfold encChar
  split
  · exact List.forall_mem_singleton.2 (Nat.pos_of_ne_zero hne)
  · exact List.forall_mem_cons.2 ⟨Nat.lt_of_lt_of_le (show 0 < 0xD800 by decide) (Nat.le_add_right ..),
      List.forall_mem_singleton.2 (Nat.lt_of_lt_of_le (show 0 < 0xDC00 by decide) (Nat.le_add_right ..))⟩

theorem utf16enc_pos (s : List Char) (h : ∀ c ∈ s, c ≠ '\x00') : ∀ u ∈ utf16enc s, 0 < u := fun u hu =>
  let ⟨c, hc, hu⟩ := List.mem_flatMap.mp hu
  encChar_pos c (h c hc) u hu

theorem unitsToBytes_append (a b : List Nat) : unitsToBytes (a ++ b) = unitsToBytes a ++ unitsToBytes b :=
  List.flatMap_append

theorem unitsToBytes_length (us : List Nat) : (unitsToBytes us).length = 2 * us.length := by
  rw [unitsToBytes, List.flatMap_def, length_flatten_map _ us (n := 2) (fun _ _ => rfl), Nat.mul_comm]

theorem bytesToUnits_lt (bs : Bytes) : ∀ u ∈ (bytesToUnits bs).1, u < 65536 := by
  induction bs using bytesToUnits.induct with
  | case1 a b r us o hr ih =>
    intro u hu
    simp only [bytesToUnits, List.mem_cons] at hu
    rcases hu with rfl | hu
    · have := a.toNat_lt; have := b.toNat_lt; omega
    · exact ih u hu
  | case2 a => simp [bytesToUnits]
  | case3 => simp [bytesToUnits]

theorem bytesToUnits_le16 (u : Nat) (h : u < 65536) (r : Bytes) :
    bytesToUnits (le16 u ++ r) = (u :: (bytesToUnits r).1, (bytesToUnits r).2) := by
  have e : bytesToUnits (le16 u ++ r) = (rd16 (le16 u) :: (bytesToUnits r).1, (bytesToUnits r).2) := rfl
  rw [e, rd16_le16 u h]

theorem bytesToUnits_units (us : List Nat) (h : ∀ u ∈ us, u < 65536) (r : Bytes) :
    bytesToUnits (unitsToBytes us ++ r) = (us ++ (bytesToUnits r).1, (bytesToUnits r).2) := by
  induction us with
  | nil => simp [unitsToBytes]
  | cons u us ih =>
    simp only [unitsToBytes, List.flatMap_cons, List.append_assoc] at *
    rw [bytesToUnits_le16 u (h u (by simp))]
    rw [ih (fun x hx => h x (by simp [hx]))]
    simp

theorem unitsToBytes_bytesToUnits : ∀ bs : Bytes, (bytesToUnits bs).2 = false →
    unitsToBytes (bytesToUnits bs).1 = bs
  | [], _ => rfl
  | [_], h => by cases h
  | a :: b :: r, h => by
    have e : unitsToBytes (bytesToUnits (a :: b :: r)).1 =
        le16 (rd16 [a, b]) ++ unitsToBytes (bytesToUnits r).1 := rfl
    rw [e, le16_rd16 [a, b] rfl, unitsToBytes_bytesToUnits r h]
    rfl

theorem dropWhile_nul_of_free (s : List Char) (h : ∀ c ∈ s, c ≠ '\x00') :
    s.dropWhile (· == '\x00') = s := by
  cases s with
  | nil => rfl
  | cons c cs => exact List.dropWhile_cons_of_neg (by simpa using h c List.mem_cons_self)

theorem trimNul_append_nul (s : List Char) (h : ∀ c ∈ s, c ≠ '\x00') :
    trimNul (s ++ ['\x00']) = s := by
  unfold trimNul
  cases s with
  | nil => rfl
  | cons c cs =>
    -- nothing goes in front; reversed, the one NUL behind goes and what follows is `c :: cs` reversed, without NUL
    have hc : ¬ (c == '\x00') = true := by simpa using h c List.mem_cons_self
    rw [List.cons_append, List.dropWhile_cons_of_neg (p := (· == '\x00')) hc, ← List.cons_append, List.reverse_append,
      List.reverse_singleton, List.singleton_append, List.dropWhile_cons_of_pos (p := (· == '\x00')) rfl,
      dropWhile_nul_of_free _ fun x hx => h x (List.mem_reverse.mp hx), List.reverse_reverse]

theorem decode_marshal (s : List Char) : decodeUtf16Bytes (marshalUtf16 s) = s ++ ['\x00'] := by
  unfold decodeUtf16Bytes marshalUtf16
  rw [bytesToUnits_units _ (utf16enc_lt s)]
  simp only [bytesToUnits]
  have : (0:UInt8).toNat + 256 * (0:UInt8).toNat = 0 := by decide
  simp only [this, List.append_nil, if_false, Bool.false_eq_true]
  rw [utf16dec_enc_append]
  simp [utf16dec]

theorem parseUtf16_marshal (s : List Char) (h : ∀ c ∈ s, c ≠ '\x00') :
    parseUtf16 (marshalUtf16 s) = .ok s := by
  unfold parseUtf16
  simp only [decode_marshal, List.getLast?_append, List.getLast?_singleton, Option.some_or]
  simp [trimNul_append_nul s h]

theorem readNullString_le16 (u : Nat) (h0 : 0 < u) (h : u < 65536) (r : Bytes) :
    readNullString (le16 u ++ r) = (le16 u ++ (readNullString r).1, (readNullString r).2) := by
  have hu := rd16_le16 u h
  simp only [le16, List.cons_append, List.nil_append, readNullString] at hu ⊢
  -- both bytes zero would make the unit zero
  have hne : ((u % 256).toUInt8 == 0 && (u / 256 % 256).toUInt8 == 0) = false := by
    apply Bool.eq_false_iff.mpr
    intro hh
    simp only [Bool.and_eq_true, beq_iff_eq] at hh
    rw [rd16, hh.1, hh.2] at hu
    exact absurd hu (Nat.ne_of_lt h0)
  rw [hne]
  rfl

theorem readNullString_units (us : List Nat) (h0 : ∀ u ∈ us, 0 < u) (h : ∀ u ∈ us, u < 65536)
    (tail : Bytes) :
    readNullString (unitsToBytes us ++ ([0, 0] ++ tail)) = (unitsToBytes us ++ [0, 0], tail) := by
  induction us with
  | nil => simp [unitsToBytes, readNullString]
  | cons u us ih =>
    simp only [unitsToBytes, List.flatMap_cons, List.append_assoc] at *
    rw [readNullString_le16 u (h0 u (by simp)) (h u (by simp))]
    rw [ih (fun x hx => h0 x (by simp [hx])) (fun x hx => h x (by simp [hx]))]

theorem readNullString_append (bs : Bytes) : (readNullString bs).1 ++ (readNullString bs).2 = bs := by
  induction bs using readNullString.induct with
  | case1 a b r h =>
    simp only [Bool.and_eq_true, beq_iff_eq] at h
    simp [readNullString, h.1, h.2]
  | case2 a b r h x rest hr ih =>
    simp only [readNullString, h, hr] at *
    simp [ih]
  | case3 a => simp [readNullString]
  | case4 => simp [readNullString]

theorem readNullString_length (bs : Bytes) :
    (readNullString bs).1.length + (readNullString bs).2.length = bs.length := by
  rw [← List.length_append, readNullString_append]

theorem readNullString_marshal (s : List Char) (h : ∀ c ∈ s, c ≠ '\x00') (tail : Bytes) :
    readNullString (marshalUtf16 s ++ tail) = (marshalUtf16 s, tail) := by
  have : marshalUtf16 s ++ tail = unitsToBytes (utf16enc s) ++ ([0, 0] ++ tail) := by
    simp [marshalUtf16]
  rw [this, readNullString_units _ (utf16enc_pos s h) (utf16enc_lt s)]
  rfl

theorem efistring_marshal (s : List Char) (h : ∀ c ∈ s, c ≠ '\x00') (tail : Bytes) :
    efistringUnmarshal (marshalUtf16 s ++ tail) = .ok s := by
  rw [efistringUnmarshal, readNullString_marshal s h]
  exact parseUtf16_marshal s h

/-! ### sizes -/

theorem utf16dec_length_le (us : List Nat) : (utf16dec us).length ≤ us.length := by
  induction us using utf16dec.induct with
  | case1 => simp [utf16dec]
  | case2 u => simp [utf16dec]
  | case3 u v rest h1 h2 ih => simp only [utf16dec, h1, h2]; simp; omega
  | case4 u v rest h1 h2 ih => simp only [utf16dec, h1, h2]; simp at ih ⊢; omega
  | case5 u v rest h1 ih => simp only [utf16dec, h1]; simp at ih ⊢; omega

theorem bytesToUnits_length (bs : Bytes) :
    2 * (bytesToUnits bs).1.length + (if (bytesToUnits bs).2 then 1 else 0) = bs.length := by
  induction bs using bytesToUnits.induct with
  | case1 a b r us o hr ih => simp only [bytesToUnits, hr] at *; simp; omega
  | case2 a => simp [bytesToUnits]
  | case3 => simp [bytesToUnits]

theorem decodeUtf16Bytes_length_le (bs : Bytes) : (decodeUtf16Bytes bs).length ≤ (bs.length + 1) / 2 := by
  have h1 := bytesToUnits_length bs
  have h2 := utf16dec_length_le (bytesToUnits bs).1
  simp only [decodeUtf16Bytes, List.length_append]
  generalize (bytesToUnits bs).2 = odd at h1 ⊢
  cases odd
  · simp only [Bool.false_eq_true, if_false, List.length_nil] at h1 ⊢; omega
  · simp only [if_true, List.length_singleton] at h1 ⊢; omega

theorem trimNul_length_le (s : List Char) : (trimNul s).length ≤ s.length := by
  unfold trimNul
  rw [List.length_reverse]
  have h1 := (List.dropWhile_sublist (l := (s.dropWhile (· == '\x00')).reverse) (· == '\x00')).length_le
  have h2 := (List.dropWhile_sublist (l := s) (· == '\x00')).length_le
  rw [List.length_reverse] at h1
  omega

/-- `ParseUtf16Var` returns, and at most one character per 2-byte code unit -/
theorem parseUtf16_spec (bs : Bytes) : (parseUtf16 bs).Ensures fun s => s.length ≤ (bs.length + 1) / 2 := by
  unfold parseUtf16
  simp only
  split
  · exact .err
  · refine .ite' .err (.ok ?_)
    have := trimNul_length_le (decodeUtf16Bytes bs)
    have := decodeUtf16Bytes_length_le bs
    omega

end GoUefi

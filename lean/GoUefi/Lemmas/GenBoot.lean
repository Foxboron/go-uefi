import GoUefi.Gen
import GoUefi.Lemmas.Boot
import GoUefi.Lemmas.GenFmt
import GoUefi.Lemmas.GenCodec
/-!
# The translated `bootorder.Unmarshal` loop, one turn at a time

Lemmas for `Properties/C18g.lean`.
-/
namespace GoUefi.GenBoot
open GoUefi GoUefi.Gen

/-- the names that `bootorder.Unmarshal` appends for the buffer content `bs`, written with the prelude's `fmtHex`
    (what `fmt.Sprintf("Boot%04X", val)` is translated to): one per complete little-endian pair and no other — the
    loop runs while `b.Len() >= 2`, so a trailing single byte is not read (F35 repair) -/
def bootNames : List UInt8 → List String
  | a :: b :: r => ("Boot" ++ fmtHex true 4 (a.toNat + 256 * b.toNat)) :: bootNames r
  | [_] => []
  | [] => []

/-- what `bootorder.Unmarshal` leaves in the buffer: the bytes behind the `⌊len/2⌋` complete pairs -/
def rest (bs : List UInt8) : List UInt8 := bs.drop (2 * (bs.length / 2))

/-- `b.Read(sec)` with two or more bytes left: both bytes of `sec` are overwritten -/
theorem bufRead_two (a c : UInt8) (r : List UInt8) (x y : UInt8) :
    bufRead [x, y] (a :: c :: r) = ([a, c], r, 2, none) := by
  have hm : min 2 (r.length + 1 + 1) = 2 := Nat.min_eq_left (Nat.le_add_left 2 r.length)
  simp only [bufRead, List.length_cons, List.length_nil, Nat.zero_add, Nat.reduceAdd, hm, List.take_succ_cons,
    List.take_zero, List.drop_succ_cons, List.drop_nil, List.append_nil, List.drop_zero]
  rfl

/-- fewer than two bytes left (none, or a trailing single byte): the loop ends and the buffer is not touched -/
theorem loop_stop (fuel : Nat) (bo : efivarfs.bootorder) (bs : List UInt8) (i : Int) (h : bs.length < 2) :
    efivarfs.bootorder.Unmarshal.loop1 (fuel + 1) bo bs i = Loop.done (bo, bs, i) := by
  have hc : ¬ lenI bs ≥ (2 : Int) := by rw [lenI_eq]; omega
  rw [efivarfs.bootorder.Unmarshal.loop1, decide_eq_false hc]
  rfl

theorem loop_pair (fuel : Nat) (bo : efivarfs.bootorder) (a c : UInt8) (r : List UInt8) (i : Int) :
    efivarfs.bootorder.Unmarshal.loop1 (fuel + 1) bo (a :: c :: r) i =
      efivarfs.bootorder.Unmarshal.loop1 fuel (bo ++ ["Boot" ++ fmtHex true 4 (a.toNat + 256 * c.toNat)]) r (i + 2) := by
  have hc : lenI (a :: c :: r) ≥ (2 : Int) := by rw [lenI_eq, List.length_cons, List.length_cons]; omega
  rw [efivarfs.bootorder.Unmarshal.loop1, decide_eq_true hc, if_pos rfl]
  have hsec : List.replicate ((2 : Int)).toNat (0 : UInt8) = [0, 0] := rfl
  have hval : (decBE16 [c, a]).toNat = a.toNat + 256 * c.toNat :=
    (GenCodec.decBE16_toNat [c, a] rfl).trans (Nat.add_comm _ _)
  simp only [hsec, bufRead_two, List.getD_cons_zero, List.getD_cons_succ, hval]

theorem rest_cons_cons (a c : UInt8) (r : List UInt8) : rest (a :: c :: r) = rest r := by
  have e : 2 * ((a :: c :: r).length / 2) = 2 * (r.length / 2) + 1 + 1 := by
    simp only [List.length_cons]; omega
  rw [rest, e, List.drop_succ_cons, List.drop_succ_cons, rest]

/-- the whole loop: with `⌊len/2⌋ + 1` units of fuel or more it completes (never the out-of-fuel value), exactly
    `bootNames bs` has been appended and the buffer holds `rest bs` -/
theorem loop_eq : ∀ (bs : List UInt8) (fuel : Nat), bs.length / 2 + 1 ≤ fuel →
    ∀ (bo : efivarfs.bootorder) (i : Int),
    ∃ i', efivarfs.bootorder.Unmarshal.loop1 fuel bo bs i = Loop.done (bo ++ bootNames bs, rest bs, i') := by
  refine pairs_fuel (fun f bo i => ⟨i, ?_⟩) (fun a f bo i => ⟨i, ?_⟩) (fun a c r f ih bo i => ?_)
  · rw [loop_stop f bo [] i Nat.zero_lt_two, bootNames, List.append_nil]
    rfl
  · rw [loop_stop f bo [a] i Nat.one_lt_two, bootNames, List.append_nil, show rest [a] = [a] by simp [rest]]
  · obtain ⟨i', hi'⟩ := ih (bo ++ ["Boot" ++ fmtHex true 4 (a.toNat + 256 * c.toNat)]) (i + 2)
    exact ⟨i', by rw [loop_pair, hi', bootNames, rest_cons_cons, List.append_assoc, List.singleton_append]⟩

/-- the names are the model's (`Impl.bootOrder` of Model/Boot.lean), as strings -/
theorem bootNames_model : ∀ bs : List UInt8, bootNames bs = (Impl.bootOrder bs).map String.ofList
  | [] => rfl
  | [_] => rfl
  | a :: c :: r => by
    have ha := UInt8.toNat_lt a
    have hc := UInt8.toNat_lt c
    rw [bootNames, Impl.bootOrder, List.map_cons, bootNames_model r, GenFmt.boot_name _ (by omega)]; rfl

theorem rest_length (bs : List UInt8) : (rest bs).length = bs.length % 2 := by
  rw [rest, List.length_drop]; omega

theorem rest_even (bs : List UInt8) (h : bs.length % 2 = 0) : rest bs = [] :=
  List.eq_nil_of_length_eq_zero (by rw [rest_length, h])

end GoUefi.GenBoot

import GoUefi.Gen
import GoUefi.Model.Utf16
import GoUefi.Lemmas.Bytes
/-!
# The translated `util.ReadNullString` loop, one turn at a time

Lemmas for `Properties/C17g.lean`.
-/
namespace GoUefi.GenNullStr
open GoUefi GoUefi.Gen

theorem block_eq : List.replicate ((2 : Int)).toNat (0 : UInt8) = [0, 0] := rfl

/-- `io.ReadFull(f, block)` with nothing left: nothing read (`io.EOF`) -/
theorem readFull_nil (x y : UInt8) : readFull [x, y] [] = ([x, y], [], 0, some "io.EOF") := rfl

/-- … with one byte left: it is in `block[0]`, `n = 1` (`io.ErrUnexpectedEOF`) -/
theorem readFull_one (a x y : UInt8) : readFull [x, y] [a] = ([a, y], [], 1, some "io.ErrUnexpectedEOF") := rfl

/-- … with two or more bytes left: the block is filled, `n = 2`, no error -/
theorem readFull_two (a c : UInt8) (r : List UInt8) (x y : UInt8) :
    readFull [x, y] (a :: c :: r) = ([a, c], r, 2, none) := by
  have hlt : ¬ (r.length + 1 + 1 < 2) := Nat.not_lt.2 (Nat.le_add_left 2 r.length)
  simp only [readFull, List.isEmpty_cons, Bool.false_eq_true, if_false, List.length_cons, List.length_nil,
    Nat.zero_add, Nat.reduceAdd, hlt, List.take_succ_cons, List.take_zero, List.drop_succ_cons, List.drop_zero]
  rfl

theorem loop_nil (fuel : Nat) (ret : List UInt8) :
    util.ReadNullString.loop1 (fuel + 1) [] ret = Loop.done ([], ret) := by
  rw [util.ReadNullString.loop1]
  simp only [block_eq, readFull_nil]
  rfl

/-- a single byte left: it is appended as it is (F32: not padded into a terminator) and the loop ends -/
theorem loop_single (fuel : Nat) (a : UInt8) (ret : List UInt8) :
    util.ReadNullString.loop1 (fuel + 1) [a] ret = Loop.done ([], ret ++ [a]) := by
  rw [util.ReadNullString.loop1]
  simp only [block_eq, readFull_one]
  rfl

theorem loop_pair (fuel : Nat) (a c : UInt8) (r ret : List UInt8) :
    util.ReadNullString.loop1 (fuel + 1) (a :: c :: r) ret =
      if (a == 0 && c == 0) then Loop.done (r, ret ++ [a, c])
      else util.ReadNullString.loop1 fuel r (ret ++ [a, c]) := by
  rw [util.ReadNullString.loop1]
  simp only [block_eq, readFull_two, List.cons_beq_cons, List.beq_nil_eq, List.isEmpty_nil, Bool.and_true]
  rfl

/-- the whole loop, for any fuel ≥ `len/2 + 1`: it completes, having appended the model's string part and left
    the model's rest in the reader -/
theorem loop_eq : ∀ (bs : List UInt8) (fuel : Nat), bs.length / 2 + 1 ≤ fuel → ∀ ret : List UInt8,
    util.ReadNullString.loop1 fuel bs ret = Loop.done ((readNullString bs).2, ret ++ (readNullString bs).1) := by
  refine pairs_fuel (fun f ret => ?_) (fun a f ret => ?_) (fun a c r f ih ret => ?_)
  · rw [loop_nil, readNullString, List.append_nil]
  · rw [loop_single, readNullString]
  · rw [loop_pair, readNullString]
    by_cases hz : (a == 0 && c == 0) = true
    · rw [if_pos hz, if_pos hz]
      obtain ⟨ha, hc⟩ : a = 0 ∧ c = 0 := by simpa only [Bool.and_eq_true, beq_iff_eq] using hz
      rw [ha, hc]
    · rw [if_neg hz, if_neg hz, ih (ret ++ [a, c])]
      simp only [List.append_assoc, List.cons_append, List.nil_append]

end GoUefi.GenNullStr

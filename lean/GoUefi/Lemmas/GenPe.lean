import GoUefi.Gen
import GoUefi.Properties.C01g
import GoUefi.Lemmas.GenAuthDesc
import GoUefi.Lemmas.PeSign
import GoUefi.Lemmas.Outcome
/-!
  For `Properties/C03g.lean`, about the translated `authenticode.PECOFFBinary` (authenticode/checksum.go) of
  `GoUefi/Gen.lean`: Go's `uint32(x)` on the values `AppendSignature` converts and `PaddingBytes` of a `uint32` length;
  what `ReadWinCertificate` consumes; the loop of `Signatures()` without its accumulator (`walk`), its refinement of the
  model's `Impl.signaturesAux` (`Model/Pe.lean`), and the tables it consumes exactly (`WalksTo`).
-/
namespace GoUefi.GenPe
open GoUefi GoUefi.Gen GoUefi.GenCodec GoUefi.GenAuthDesc
open GoUefi.C10 (absWC)

/-! ### `uint32` conversions, `PaddingBytes` of a `uint32` -/

theorem ofInt_natCast (n : Nat) : UInt32.ofInt (n : Int) = UInt32.ofNat n := by
  unfold UInt32.ofInt
  rw [Int.toNat_emod (Int.natCast_nonneg n) (by decide), Int.toNat_natCast]
  exact UInt32.ofNat_mod_size

theorem toNat_ofInt_nonneg {i : Int} (h : 0 ≤ i) : (UInt32.ofInt i).toNat = i.toNat % 2 ^ 32 := by
  rw [← Int.toNat_of_nonneg h, ofInt_natCast, UInt32.toNat_ofNat', Int.toNat_natCast]

theorem toNat_ofNat_pad8 (n : Nat) : (UInt32.ofNat (pad8 n)).toNat = pad8 n :=
  UInt32.toNat_ofNat_of_lt' (Nat.lt_trans (pad8_lt n) (by decide))

theorem ne_zero_iff_toNat (x : UInt32) : x ≠ 0 ↔ x.toNat ≠ 0 :=
  not_congr (UInt32.toNat_inj (b := 0)).symm

/-- `PaddingBytes(int(dwLength), 8)` -/
theorem paddingBytes_uint32 (L : UInt32) :
    authenticode.PaddingBytes (L.toNat : Int) 8 = (zeros (pad8 L.toNat), (pad8 L.toNat : Int)) :=
  C01.C01g_padding_model L.toNat (Nat.lt_of_lt_of_le L.toNat_lt (by decide))

/-! ### `ReadWinCertificate` through the model's reader -/

theorem read_append {t rest : List UInt8} {w : signature.WINCertificate}
    (hr : signature.ReadWinCertificate t = (rest, w, none)) (e : List UInt8) :
    signature.ReadWinCertificate (t ++ e) = (rest ++ e, w, none) :=
  readWinCert_tie_iff.mpr (PeSign.readWinCert_append (readWinCert_tie_iff.mp hr) e)

theorem read_ok_span {t rest : List UInt8} {w : signature.WINCertificate}
    (hr : signature.ReadWinCertificate t = (rest, w, none)) :
    8 ≤ w.Length.toNat ∧ w.Length.toNat ≤ t.length ∧ rest = t.drop w.Length.toNat := by
  obtain ⟨⟨hL, _⟩, rfl⟩ := Impl.readWinCert_eq_ok.mp (readWinCert_tie_iff.mp hr)
  have hL : w.Length.toNat = 8 + w.Certificate.length := hL
  -- the entry is the first `dwLength` bytes of the table
  have hlen : (Impl.writeWinCert (absWC w)).length = w.Length.toNat := (Impl.writeWinCert_length _).trans hL.symm
  exact ⟨hL ▸ Nat.le_add_right 8 _, by rw [List.length_append, hlen]; exact Nat.le_add_right _ _,
    (List.drop_left' hlen).symm⟩

theorem read_ok_shorter {t rest : List UInt8} {w : signature.WINCertificate}
    (hr : signature.ReadWinCertificate t = (rest, w, none)) (k : Nat) : (rest.drop k).length < t.length :=
  Nat.lt_of_lt_of_le (Nat.lt_add_of_pos_right (by decide)) (PeSign.readWinCert_shorter (readWinCert_tie_iff.mp hr) k)

/-! ### the walk of `Signatures()` -/

abbrev walk (fuel : Nat) (t : List UInt8) := authenticode.PECOFFBinary.Signatures.loop1 fuel [] t

/-- prefix the list of a completed walk -/
def shift (acc : List signature.WINCertificate) :
    Loop (List signature.WINCertificate × GoErr) (List signature.WINCertificate × List UInt8) →
    Loop (List signature.WINCertificate × GoErr) (List signature.WINCertificate × List UInt8)
  | Loop.ret r => Loop.ret r
  | Loop.done m => Loop.done (acc ++ m.1, m.2)

theorem shift_shift (a b : List signature.WINCertificate) (x) : shift a (shift b x) = shift (a ++ b) x := by
  cases x with
  | ret r => rfl
  | done m => simp [shift, List.append_assoc]

theorem shift_nil (x) : shift [] x = x := by
  cases x with
  | ret r => rfl
  | done m => simp [shift]

/-- `reader.Read(make([]byte, k))` skips `k` bytes (fewer when fewer are left) -/
theorem rdrRead_skip (k : Nat) (f : List UInt8) : (rdrRead (List.replicate k (0 : UInt8)) f).2.1 = f.drop k := by
  cases f with
  | nil => simp [rdrRead]
  | cons a f => simp [rdrRead]

theorem loop_zero (acc : List signature.WINCertificate) (t : List UInt8) :
    authenticode.PECOFFBinary.Signatures.loop1 0 acc t = Loop.ret ([], some "go2lean:out-of-fuel") := rfl

theorem loop_succ (f : Nat) (acc : List signature.WINCertificate) (t : List UInt8) :
    authenticode.PECOFFBinary.Signatures.loop1 (f + 1) acc t =
      if t.length ≤ 8 then Loop.done (acc, t)
      else match signature.ReadWinCertificate t with
        | (rest, w, none) =>
          authenticode.PECOFFBinary.Signatures.loop1 f (acc ++ [w]) (rest.drop (pad8 w.Length.toNat))
        | (_, _, some e) => Loop.ret ([], goWrap (some e)) := by
  conv => lhs; unfold authenticode.PECOFFBinary.Signatures.loop1
  by_cases h : t.length ≤ 8
  · have : ¬ ((t.length : Int) > 8) := Int.not_lt.mpr (Int.ofNat_le.mpr h)
    simp only [lenI_eq, this, decide_false, Bool.false_eq_true, if_false, if_pos h]
  · have : ((t.length : Int) > 8) := Int.ofNat_lt.mpr (Nat.lt_of_not_le h)
    simp only [lenI_eq, this, decide_true, if_true, if_neg h, rdrRead_skip, paddingBytes_uint32, Int.toNat_natCast]
    rcases signature.ReadWinCertificate t with ⟨rest, w, _ | e⟩
    · rfl
    · rfl

theorem loop_ret_shape : ∀ (f : Nat) (acc : List signature.WINCertificate) (t : List UInt8)
    (r : List signature.WINCertificate × GoErr),
    authenticode.PECOFFBinary.Signatures.loop1 f acc t = Loop.ret r → ∃ e, r = ([], some e) := by
  intro f
  induction f with
  | zero => intro acc t r h; rw [loop_zero] at h; cases h; exact ⟨_, rfl⟩
  | succ f ih =>
    intro acc t r h
    rw [loop_succ] at h
    split at h
    · cases h
    · revert h
      rcases signature.ReadWinCertificate t with ⟨rest, w, _ | e⟩
      · exact ih _ _ _
      · intro h; cases h; exact ⟨_, rfl⟩

/-- the result list is only ever appended to -/
theorem loop_shift : ∀ (f : Nat) (acc : List signature.WINCertificate) (t : List UInt8),
    authenticode.PECOFFBinary.Signatures.loop1 f acc t = shift acc (walk f t) := by
  intro f
  induction f with
  | zero => intro acc t; rfl
  | succ f ih =>
    intro acc t
    rw [walk, loop_succ, loop_succ]
    split
    · simp [shift]
    · rcases signature.ReadWinCertificate t with ⟨rest, w, _ | e⟩
      · dsimp only
        rw [ih, ih ([] ++ [w]), shift_shift]
        simp
      · rfl

theorem walk_short (f : Nat) {t : List UInt8} (h : t.length ≤ 8) : walk (f + 1) t = Loop.done ([], t) := by
  rw [walk, loop_succ, if_pos h]

theorem walk_err (f : Nat) {t rest : List UInt8} {w : signature.WINCertificate} {e : String} (h : 8 < t.length)
    (hr : signature.ReadWinCertificate t = (rest, w, some e)) : walk (f + 1) t = Loop.ret ([], goWrap (some e)) := by
  rw [walk, loop_succ, if_neg (Nat.not_le_of_lt h), hr]

theorem walk_ok (f : Nat) {t rest : List UInt8} {w : signature.WINCertificate} (h : 8 < t.length)
    (hr : signature.ReadWinCertificate t = (rest, w, none)) :
    walk (f + 1) t = shift [w] (walk f (rest.drop (pad8 w.Length.toNat))) := by
  rw [walk, loop_succ, if_neg (Nat.not_le_of_lt h), hr]
  exact loop_shift f _ _

/-- the fuel is irrelevant above the table length: every listed entry takes at least 8 bytes -/
theorem walk_fuel (f1 f2 : Nat) (t : List UInt8) (h1 : t.length < f1) (h2 : t.length < f2) : walk f1 t = walk f2 t := by
  refine fuel_irrel (loop := walk) (fun t => t.length + 1) (fun _ _ h => nomatch h) (fun f f' t ih => ?_) f1 f2 t h1 h2
  by_cases hs : t.length ≤ 8
  · rw [walk_short f hs, walk_short f' hs]
  · have h8 := Nat.lt_of_not_le hs
    rcases hr : signature.ReadWinCertificate t with ⟨rest, w, _ | e⟩
    · rw [walk_ok f h8 hr, walk_ok f' h8 hr, ih _ (Nat.succ_lt_succ (read_ok_shorter hr _))]
    · rw [walk_err f h8 hr, walk_err f' h8 hr]

/-- **refinement**, read off the result of the translated walk: with enough fuel on both sides a completed walk is the
    model's `.ok` with the same entries (through `absWC`); a `return` inside the loop is the model's `.err` and carries
    the wrapped error of some `ReadWinCertificate` with an empty list — never out of fuel -/
theorem walk_model : ∀ (f m : Nat) (t : List UInt8), t.length < f → t.length ≤ m →
    match walk f t with
    | .done (gws, _) => Impl.signaturesAux m t = .ok (gws.map absWC)
    | .ret r => Impl.signaturesAux m t = .err ∧
        ∃ t' r' w e, signature.ReadWinCertificate t' = (r', w, some e) ∧ r = ([], goWrap (some e)) := by
  intro f
  induction f with
  | zero => exact fun m t h => absurd h (Nat.not_lt_zero _)
  | succ f ih =>
    intro m t hf hm
    by_cases h : t.length ≤ 8
    · rw [walk_short f h]
      exact PeSign.signaturesAux_short m h
    · have h8 := Nat.lt_of_not_le h
      obtain ⟨m, rfl⟩ := Nat.exists_eq_add_one_of_ne_zero (Nat.ne_of_gt (Nat.lt_of_lt_of_le (Nat.zero_lt_of_lt h8) hm))
      rcases hr : signature.ReadWinCertificate t with ⟨rest, w, _ | e⟩
      · have hlen := read_ok_shorter hr (pad8 w.Length.toNat)
        have hstep := ih m (rest.drop (pad8 w.Length.toNat)) (Nat.lt_of_lt_of_le hlen (Nat.le_of_lt_succ hf))
          (Nat.le_of_lt_succ (Nat.lt_of_lt_of_le hlen hm))
        rw [walk_ok f h8 hr, PeSign.signaturesAux_step m h8 (readWinCert_tie_iff.mp hr),
          show (absWC w).length = w.Length.toNat from rfl]
        cases hw : walk f (rest.drop (pad8 w.Length.toNat)) with
        | done q => rw [hw] at hstep; rw [hstep]; rfl
        | ret r => rw [hw] at hstep; exact And.intro (by rw [hstep.1]) hstep.2
      · rw [walk_err f h8 hr, Impl.signaturesAux, if_neg h, readWinCert_model, hr]
        exact ⟨rfl, t, rest, w, e, hr, rfl⟩

/-! ### tables that the walk consumes exactly -/

/-- the walk of `Signatures()` lists `ws` for the table `t` and consumes it to its last byte: every entry is read by
    `ReadWinCertificate` while more than 8 bytes are left, and is followed by its complete padding to 8 -/
inductive WalksTo : List UInt8 → List signature.WINCertificate → Prop
  | nil : WalksTo [] []
  | cons {t rest : List UInt8} {w : signature.WINCertificate} {ws : List signature.WINCertificate} :
      8 < t.length → signature.ReadWinCertificate t = (rest, w, none) → pad8 w.Length.toNat ≤ rest.length →
      WalksTo (rest.drop (pad8 w.Length.toNat)) ws → WalksTo t (w :: ws)

theorem WalksTo.walk {t : List UInt8} {ws : List signature.WINCertificate} (h : WalksTo t ws) :
    ∀ f, t.length < f → GenPe.walk f t = Loop.done (ws, []) := by
  induction h with
  | nil =>
    intro f hf
    match f, hf with
    | f + 1, _ => exact walk_short f (Nat.zero_le 8)
  | @cons _ _ w _ h8 hr _ _ ih =>
    intro f hf
    match f, hf with
    | f + 1, hf =>
      rw [walk_ok f h8 hr, ih f (Nat.lt_of_lt_of_le (read_ok_shorter hr _) (Nat.le_of_lt_succ hf))]
      rfl

theorem WalksTo.append {t : List UInt8} {ws : List signature.WINCertificate} (h : WalksTo t ws)
    {e : List UInt8} {ws' : List signature.WINCertificate} (he : WalksTo e ws') : WalksTo (t ++ e) (ws ++ ws') := by
  induction h with
  | nil => exact he
  | @cons t rest w _ h8 hr hp _ ih =>
    refine WalksTo.cons (List.length_append ▸ Nat.lt_add_right _ h8) (read_append hr e)
      (List.length_append ▸ Nat.le_add_right_of_le hp) ?_
    rw [List.drop_append_of_le_length hp]
    exact ih

/-- the entry that `AppendSignature` writes for a non-empty signature of less than 2^32 - 8 bytes -/
theorem walksTo_entry (sig : List UInt8) (hne : sig ≠ []) (h32 : 8 + sig.length < 2 ^ 32) :
    WalksTo (PeSign.sigEntry sig) [⟨UInt32.ofNat (8 + sig.length), 0x0200, 2, sig⟩] := by
  have hpos : 0 < sig.length := List.length_pos_iff.mpr hne
  have hL : (UInt32.ofNat (8 + sig.length)).toNat = 8 + sig.length := UInt32.toNat_ofNat_of_lt' h32
  have hr := read_writeWinCert ⟨UInt32.ofNat (8 + sig.length), 0x0200, 2, sig⟩ (zeros (pad8 (8 + sig.length)))
    ⟨hL, UInt32.toNat_lt _, rfl, UInt16.toNat_lt _⟩
  simp only [absWC, hL, UInt16.reduceToNat] at hr
  refine WalksTo.cons ?_ hr ?_ ?_
  · rw [PeSign.sigEntry_length]
    exact Nat.lt_add_right _ (Nat.lt_add_of_pos_right hpos)
  · rw [hL, zeros, List.length_replicate]
    exact Nat.le_refl _
  · rw [hL, zeros, List.drop_replicate, Nat.sub_self]
    exact WalksTo.nil

/-- in a table that is a multiple of 8 bytes long an entry is followed by its full padding, and what is behind the
    padding is a multiple of 8 bytes long again -/
theorem pad8_le_sub {n L : Nat} (hn : n % 8 = 0) (hL : L ≤ n) : pad8 L ≤ n - L ∧ (n - L - pad8 L) % 8 = 0 := by
  have h2 := add_pad8_mod L
  -- `L + pad8 L` is the first multiple of 8 from `L` on, and `n` is one
  have h3 : L + pad8 L ≤ n :=
    Nat.le_of_lt_add_of_dvd (Nat.lt_of_lt_of_le (Nat.add_lt_add_left (pad8_lt L) L) (Nat.add_le_add_right hL 8))
      (Nat.dvd_of_mod_eq_zero h2) (Nat.dvd_of_mod_eq_zero hn)
  exact ⟨Nat.le_sub_of_add_le' h3, by rw [Nat.sub_sub]; exact Nat.sub_mod_eq_zero_of_mod_eq (hn.trans h2.symm)⟩

/-- a completed walk that leaves nothing over, on a table whose length is a multiple of 8, is an exact walk (every
    padding was there in full) -/
theorem walksTo_of_walk : ∀ (f : Nat) (t : List UInt8) (ws : List signature.WINCertificate),
    walk f t = Loop.done (ws, []) → t.length % 8 = 0 → WalksTo t ws := by
  intro f
  induction f with
  | zero => intro t ws h; cases h
  | succ f ih =>
    intro t ws h h8m
    by_cases hs : t.length ≤ 8
    · rw [walk_short f hs] at h
      cases h
      exact WalksTo.nil
    · have h8 := Nat.lt_of_not_le hs
      rcases hr : signature.ReadWinCertificate t with ⟨rest, w, _ | e⟩
      · rw [walk_ok f h8 hr] at h
        obtain ⟨_, hLt, hrest⟩ := read_ok_span hr
        have hrl : rest.length = t.length - w.Length.toNat := by rw [hrest, List.length_drop]
        cases hw : GenPe.walk f (rest.drop (pad8 w.Length.toNat)) with
        | ret r => rw [hw] at h; cases h
        | done m =>
          obtain ⟨ws0, r0⟩ := m
          rw [hw] at h
          simp only [shift, List.cons_append, List.nil_append, Loop.done.injEq, Prod.mk.injEq] at h
          obtain ⟨rfl, rfl⟩ := h
          obtain ⟨hp, h8'⟩ := pad8_le_sub h8m hLt
          rw [← hrl] at hp h8'
          exact WalksTo.cons h8 hr hp (ih _ _ hw (by rw [List.length_drop]; exact h8'))
      · rw [walk_err f h8 hr] at h; cases h

end GoUefi.GenPe

import GoUefi.Model.VarFs
import GoUefi.Model.Pe
import GoUefi.Lemmas.Bytes
/-
  Helper definitions and lemmas for the variable I/O properties C11 / C15: the runs of `writeVar` /
  `getVar` under an arbitrary environment (an equation for each way through the program that the
  theorems use, and the case analysis over all of them), trace predicates, the fault predicate, the
  bitwise reading of `attrsSubset`, and the two "signer first" wrappers.
-/
namespace GoUefi.Impl

/-! ## `Prog.run` -/

theorem Prog.run_ret {α} (a : α) (env : Nat → Call → Res) (i : Nat) :
    (Prog.ret a).run env i = (a, []) := rfl

theorem Prog.run_call {α} (c : Call) (k : Res → Prog α) (env : Nat → Call → Res) (i : Nat) :
    (Prog.call c k).run env i =
      (((k (env i c)).run env (i + 1)).1, (c, env i c) :: ((k (env i c)).run env (i + 1)).2) := rfl

/-- `Prog.run_call` with the rest of the run mentioned once: rewriting a program of `n` calls
    with it gives a term of size `n`, with `Prog.run_call` one of size `2 ^ n` -/
theorem Prog.run_call_cons {α} (c : Call) (k : Res → Prog α) (env : Nat → Call → Res) (i : Nat) :
    (Prog.call c k).run env i = Prod.map id ((c, env i c) :: ·) ((k (env i c)).run env (i + 1)) :=
  rfl

/-! ## environments and trace predicates -/

/-- a healthy filesystem as far as the write path is concerned: every `openFile` succeeds, every
    `write` is complete, `close` succeeds -/
def OkEnv (env : Nat → Call → Res) : Prop :=
  (∀ i p f m, env i (.openFile p f m) = .ok) ∧ (∀ i buf, env i (.write buf) = .wrote buf.length) ∧
  (∀ i, env i .close = .ok)

def Call.isWrite : Call → Bool
  | .write _ => true
  | _ => false

def Call.isOpenFile : Call → Bool
  | .openFile _ _ _ => true
  | _ => false

/-- the calls `writeVar` may issue: `openFile` on the given path, `write`, `close` -/
def Call.writeVarMay (path : String) : Call → Bool
  | .openFile p _ _ => p == path
  | .write _ => true
  | .close => true
  | _ => false

def writeCount (tr : List (Call × Res)) : Nat := (tr.filter fun e => e.1.isWrite).length
def openFileCount (tr : List (Call × Res)) : Nat := (tr.filter fun e => e.1.isOpenFile).length

/-- a trace entry where the dependency misbehaved: an error return, a short (or long) write, a
    read that did not deliver exactly the bytes asked for, a `stat` without a size -/
def isFault (e : Call × Res) : Bool :=
  e.2 == .fail ||
  match e.1 with
  | .write buf => e.2 != .wrote buf.length
  | .read n => (match e.2 with | .data d => d.length != n | _ => true)
  | .stat => (match e.2 with | .size _ => false | _ => true)
  | _ => false

theorem isFault_open (p : String) (r : Res) : isFault (.open p, r) = true ↔ r = .fail := by
  simp [isFault]

theorem isFault_openFile (p : String) (f m : Nat) (r : Res) :
    isFault (.openFile p f m, r) = true ↔ r = .fail := by
  simp [isFault]

theorem isFault_close (r : Res) : isFault (.close, r) = true ↔ r = .fail := by
  simp [isFault]

theorem isFault_write (buf : Bytes) (r : Res) :
    isFault (.write buf, r) = true ↔ r ≠ .wrote buf.length := by
  cases r <;> simp [isFault]

theorem isFault_stat (r : Res) : isFault (.stat, r) = true ↔ ∀ n, r ≠ .size n := by
  cases r <;> simp [isFault]

theorem isFault_read (n : Nat) (r : Res) :
    isFault (.read n, r) = true ↔ ∀ d, r = .data d → d.length ≠ n := by
  cases r <;> simp [isFault]

/-! ## `writeVar` under an arbitrary environment -/

/-- what `writeVar` returns once the file is open, from the answers to `write` and `close` -/
def writeVarFinish (buflen : Nat) (w cl : Res) : Outcome Unit :=
  if w = .wrote buflen ∧ cl ≠ .fail then .ok () else .err

theorem writeVarFinish_ok {n : Nat} {w cl : Res} (h : writeVarFinish n w cl = .ok ()) :
    w = .wrote n ∧ cl ≠ .fail :=
  Decidable.by_contra fun hc => by rw [writeVarFinish, if_neg hc] at h; cases h

theorem writeVarFinish_ne_ok {n : Nat} {w cl : Res} (h : w ≠ .wrote n ∨ cl = .fail) :
    writeVarFinish n w cl = .err :=
  if_neg fun ⟨hw, hc⟩ => h.elim (· hw) hc

section writeVar
variable (dir : String) (name : List Char) (g : Guid) (attrs : Nat) (value : Bytes)
  (env : Nat → Call → Res)

theorem writeVar_run_fail
    (h : env 0 (.openFile (varPath dir name g) (writeFlags attrs) 0o644) = .fail) :
    (writeVar dir name g attrs value).run env 0 =
      (.err, [(.openFile (varPath dir name g) (writeFlags attrs) 0o644, .fail)]) := by
  rw [writeVar, Prog.run_call_cons, h]
  rfl

theorem writeVar_run_open
    (h : env 0 (.openFile (varPath dir name g) (writeFlags attrs) 0o644) ≠ .fail) :
    (writeVar dir name g attrs value).run env 0 =
      (writeVarFinish (4 + value.length) (env 1 (.write (le32 attrs ++ value))) (env 2 .close),
       [(.openFile (varPath dir name g) (writeFlags attrs) 0o644,
           env 0 (.openFile (varPath dir name g) (writeFlags attrs) 0o644)),
        (.write (le32 attrs ++ value), env 1 (.write (le32 attrs ++ value))),
        (.close, env 2 .close)]) := by
  have hlen : (le32 attrs ++ value).length = 4 + value.length := by simp
  -- with `h` in the context `simp` takes the second arm of the `match` on the answer to `openFile`
  -- without going through the constructors that are not `fail`
  simp only [writeVar, Prog.run_call_cons, hlen, Nat.reduceAdd]
  cases env 1 (.write (le32 attrs ++ value)) with
  | wrote n =>
    by_cases hn : n = 4 + value.length
    · by_cases hc : env 2 .close = .fail <;> simp [writeVarFinish, hn, hc, Prog.run_ret]
    · simp [writeVarFinish, hn, Prog.run_ret]
  | _ => rfl

theorem writeVar_run_cases :
    (writeVar dir name g attrs value).run env 0 =
      (.err, [(.openFile (varPath dir name g) (writeFlags attrs) 0o644, .fail)]) ∨
    ∃ r0 w cl, r0 ≠ .fail ∧
      r0 = env 0 (.openFile (varPath dir name g) (writeFlags attrs) 0o644) ∧
      w = env 1 (.write (le32 attrs ++ value)) ∧ cl = env 2 .close ∧
      (writeVar dir name g attrs value).run env 0 =
        (writeVarFinish (4 + value.length) w cl,
         [(.openFile (varPath dir name g) (writeFlags attrs) 0o644, r0),
          (.write (le32 attrs ++ value), w), (.close, cl)]) := by
  by_cases h : env 0 (.openFile (varPath dir name g) (writeFlags attrs) 0o644) = .fail
  · exact .inl (writeVar_run_fail dir name g attrs value env h)
  · exact .inr ⟨_, _, _, h, rfl, rfl, rfl, writeVar_run_open dir name g attrs value env h⟩

end writeVar

/-! ## `getVar` under an arbitrary environment -/

section getVar
variable {α : Type} (dir : String) (name : List Char) (g : Guid) (required : Nat)
  (dec : Bytes → Outcome α) (env : Nat → Call → Res)

/-- what `getVar` returns once both reads were issued, from the answers to the second read and
    to `close` -/
def getVarFinish (required : Nat) (dec : Bytes → Outcome α) (sz : Nat) (ab : Bytes) (v cl : Res) :
    Outcome (Nat × α) :=
  match v with
  | .data vb =>
    if vb.length = sz - 4 ∧ cl ≠ .fail ∧ attrsSubset required (rd32 ab) = true then
      match dec vb with
      | .ok x => .ok (rd32 ab, x)
      | .err => .err
      | .panic => .panic
      | .exit => .exit
    else .err
  | _ => .err

theorem getVarFinish_ok {sz : Nat} {ab : Bytes} {v cl : Res} {a : Nat} {x : α}
    (h : getVarFinish required dec sz ab v cl = .ok (a, x)) :
    ∃ vb, v = .data vb ∧ vb.length = sz - 4 ∧ cl ≠ .fail ∧ attrsSubset required (rd32 ab) = true ∧
      a = rd32 ab ∧ dec vb = .ok x := by
  cases v with
  | data vb =>
    simp only [getVarFinish] at h
    split at h
    · rename_i hc
      cases hd : dec vb <;> rw [hd] at h <;> cases h
      exact ⟨vb, rfl, hc.1, hc.2.1, hc.2.2, rfl, hd⟩
    · cases h
  | _ => cases h

theorem getVarFinish_fault {sz : Nat} {ab : Bytes} {v cl : Res}
    (h : isFault (.read (sz - 4), v) = true ∨ isFault (.close, cl) = true) :
    getVarFinish required dec sz ab v cl = .err := by
  rw [isFault_read, isFault_close] at h
  cases v with
  | data vb => exact if_neg fun hc => h.elim (fun h => h vb rfl hc.1) hc.2.1
  | _ => rfl

/-- the run that gets through to the second read: all five calls -/
theorem getVar_run_full (sz : Nat) (ab : Bytes) (h0 : env 0 (.open (varPath dir name g)) ≠ .fail)
    (h1 : env 1 .stat = .size sz) (h2 : env 2 (.read 4) = .data ab) (hab : ab.length = 4) :
    (getVar dir name g required dec).run env 0 =
      (getVarFinish required dec sz ab (env 3 (.read (sz - 4))) (env 4 .close),
       [(.open (varPath dir name g), env 0 (.open (varPath dir name g))), (.stat, .size sz),
        (.read 4, .data ab), (.read (sz - 4), env 3 (.read (sz - 4))), (.close, env 4 .close)]) := by
  -- `h0` in the context: as in `writeVar_run_open`
  simp only [getVar, Prog.run_call_cons, h1, h2, hab, ne_eq, not_true_eq_false, if_false,
    Nat.reduceAdd]
  -- what is left of the program issues no call: it is `ret (getVarFinish …)`
  cases env 3 (.read (sz - 4)) with
  | data vb =>
    by_cases hv : vb.length = sz - 4
    · by_cases hc : env 4 .close = .fail
      · simp [getVarFinish, hv, hc, Prog.run_ret]
      · cases hs : attrsSubset required (rd32 ab)
        · simp [getVarFinish, hv, hc, hs, Prog.run_ret]
        · simp only [getVarFinish, hv, hc, hs, ne_eq, not_true_eq_false, not_false_eq_true,
            if_false, Bool.not_true, Bool.false_eq_true, and_self, if_true]
          cases dec vb <;> rfl
    · simp [getVarFinish, hv, Prog.run_ret]
  | _ => rfl

/-- Every other run of `getVar` is one of three early exits, each with an error: the file does not
    open; `stat` gives no size; the first read does not give four bytes. -/
theorem getVar_run_cases :
    (((getVar dir name g required dec).run env 0).1 = .err ∧
      (((getVar dir name g required dec).run env 0).2 = [(.open (varPath dir name g), .fail)] ∨
       (∃ r0 st c, ((getVar dir name g required dec).run env 0).2 =
          [(.open (varPath dir name g), r0), (.stat, st), (.close, c)]) ∨
       (∃ r0 st a c, ((getVar dir name g required dec).run env 0).2 =
          [(.open (varPath dir name g), r0), (.stat, st), (.read 4, a), (.close, c)]))) ∨
    (∃ sz ab, env 0 (.open (varPath dir name g)) ≠ .fail ∧ env 1 .stat = .size sz ∧
      env 2 (.read 4) = .data ab ∧ ab.length = 4) := by
  by_cases h0 : env 0 (.open (varPath dir name g)) = .fail
  · rw [getVar, Prog.run_call_cons, h0]
    exact .inl ⟨rfl, .inl rfl⟩
  simp only [getVar, Prog.run_call_cons]
  cases h1 : env 1 .stat with
  | size sz =>
    simp only [Prog.run_call_cons, Nat.reduceAdd]
    cases h2 : env 2 (.read 4) with
    | data ab =>
      by_cases hab : ab.length = 4
      · exact .inr ⟨sz, ab, h0, rfl, rfl, hab⟩
      · simp only [ne_eq, hab, not_false_eq_true, if_true, Prog.run_call_cons]
        exact .inl ⟨rfl, .inr (.inr ⟨_, _, _, _, rfl⟩)⟩
    | _ => exact .inl ⟨rfl, .inr (.inr ⟨_, _, _, _, rfl⟩)⟩
  | _ => exact .inl ⟨rfl, .inr (.inl ⟨_, _, _, rfl⟩)⟩

theorem getVar_fileEnv (a : Nat) (x : Bytes) (ha : a < 2 ^ 32) :
    ((getVar dir name g required dec).run (fileEnv (some (le32 a ++ x))) 0).1 =
      if attrsSubset required a then
        match dec x with
        | .ok v => .ok (a, v)
        | .err => .err
        | .panic => .panic
        | .exit => .exit
      else .err := by
  have h2 : fileEnv (some (le32 a ++ x)) 2 (.read 4) = .data (le32 a) :=
    congrArg Res.data (List.take_left' (le32_length a))
  rw [getVar_run_full dir name g required dec _ (le32 a ++ x).length (le32 a) (by simp [fileEnv]) rfl h2
    (le32_length a)]
  simp only [fileEnv, Option.getD_some, getVarFinish, rd32_le32 a ha, List.length_append, le32_length,
    Nat.add_sub_cancel_left, List.drop_left' (le32_length a), List.take_length, ne_eq, reduceCtorEq,
    not_false_eq_true, true_and]

end getVar

/-! ## `attrsSubset` is Go's `(a & b) == a` on 32-bit masks -/

theorem attrsSubset_bits (r s : Nat) :
    attrsSubset r s = true ↔ ∀ i, i < 32 → r.testBit i = true → s.testBit i = true := by
  unfold attrsSubset
  simp only [List.all_eq_true, List.mem_range, Bool.or_eq_true, decide_eq_true_eq,
    Nat.testBit_eq_decide_div_mod_eq]
  -- bit by bit: "clear in `r` or set in `s`" is "set in `s` if set in `r`"
  exact forall_congr' fun i => imp_congr_right fun _ => by rw [Decidable.imp_iff_not_or, Nat.mod_two_not_eq_one]

theorem attrsSubset_iff (r s : Nat) (hr : r < 2^32) : attrsSubset r s = true ↔ r &&& s = r := by
  rw [attrsSubset_bits]
  constructor
  · intro h
    apply Nat.eq_of_testBit_eq
    intro i
    rw [Nat.testBit_and]
    cases hb : r.testBit i with
    | false => rfl
    | true =>
      -- a bit that is set in `r < 2^32` is below 32
      have hi : i < 32 :=
        (Nat.pow_lt_pow_iff_right (by decide)).1 (Nat.lt_of_le_of_lt (Nat.ge_two_pow_of_testBit hb) hr)
      rw [h i hi hb]
      rfl
  · intro h i _ hb
    rw [← h, Nat.testBit_and, Bool.and_eq_true] at hb
    exact hb.2

theorem attrsSubset_refl (a : Nat) : attrsSubset a a = true :=
  (attrsSubset_bits a a).2 fun _ _ h => h

theorem writeFlags_cases (attrs : Nat) :
    (attrs / 0x40 % 2 = 1 ∧ writeFlags attrs = 0x441) ∨ (attrs / 0x40 % 2 ≠ 1 ∧ writeFlags attrs = 0x41) := by
  unfold writeFlags O_WRONLY O_CREATE O_APPEND attrAppendWrite
  by_cases h : attrs / 0x40 % 2 = 1
  · left; rw [if_pos h]; exact ⟨h, rfl⟩
  · right; rw [if_neg h]; exact ⟨h, rfl⟩

/-! ## signer first, write second (C15) -/

/-- `WriteSignedUpdate` / `SignEFIVariable` control flow: the signer runs first, and only its
    success (`some b`, the signed bytes) leads to the write program `k b` -/
def signedUpdate (sig : Option Bytes) (k : Bytes → Prog (Outcome Unit)) : Prog (Outcome Unit) :=
  match sig with
  | none => .ret .err
  | some b => k b

/-- `PECOFFBinary.Sign` control flow: `AppendSignature` is reached only when signing succeeded -/
def signImage (sig : Option Bytes) (p : Parsed) : Outcome Unit × Parsed :=
  match sig with
  | none => (Outcome.err, p)
  | some s => (.ok (), p.appendSignature s)

end GoUefi.Impl

import GoUefi.Model.Boot
import GoUefi.Lemmas.Utf16
import GoUefi.Lemmas.Guid
import GoUefi.Lemmas.Outcome
/- Boot options (`Model/Boot.lean`, C18 and C14): "Boot%04X" determines its number; the names of a BootOrder value
   are those of its complete 16-bit entries; the device-path and load-option readers return and consume their input
   (one `Ensures` statement each, fuel included); the device-path reader inverts the specification's encoder on
   well-formed nodes; the text form of a hard-drive node -/
namespace GoUefi

/-- `EFILoadOption.Unmarshal` with `extra` additional units of fuel for its device-path loop -/
def Impl.loadOptionUnmarshalFuel (extra : Nat) (bs : Bytes) : Outcome Impl.LoadOption :=
  match readN 4 bs with
  | .error _ => .err
  | .ok (a, r1) =>
    match readN 2 r1 with
    | .error _ => .err
    | .ok (l, r2) =>
      let (s, r3) := readNullString r2
      match parseUtf16 s with
      | .ok d =>
        match Impl.parseDevicePath (r3.length + 1 + extra) r3 with
        | .ok ns => .ok ⟨rd32 a, rd16 l, d, ns⟩
        | .err => .err
        | .panic => .panic
        | .exit => .exit
      | .err => .err
      | .panic => .panic
      | .exit => .exit

def isUpperHex (c : Char) : Prop := ('0' ≤ c ∧ c ≤ '9') ∨ ('A' ≤ c ∧ c ≤ 'F')

instance isUpperHex.dec (c : Char) : Decidable (isUpperHex c) := by unfold isUpperHex; exact inferInstance

theorem hexDigitU_upper (n : Nat) : isUpperHex (hexDigitU (n % 16)) := by
  have : ∀ k, k < 16 → isUpperHex (hexDigitU k) := by decide
  exact this _ (Nat.mod_lt n (by decide))

theorem hexDigitVal_hexDigitU : ∀ k, k < 16 → hexDigitVal (hexDigitU k) = k := by decide

theorem hexDigitU_inj (a b : Nat) (h : hexDigitU (a % 16) = hexDigitU (b % 16)) : a % 16 = b % 16 := by
  have := congrArg hexDigitVal h
  rwa [hexDigitVal_hexDigitU _ (Nat.mod_lt a (by decide)), hexDigitVal_hexDigitU _ (Nat.mod_lt b (by decide))] at this

theorem digits4 (n : Nat) (h : n < 65536) :
    n = n % 16 + 16 * (n / 16 % 16) + 256 * (n / 256 % 16) + 4096 * (n / 4096 % 16) := by
  have e3 : n % 65536 = n % 4096 + 4096 * (n / 4096 % 16) := Nat.mod_mul (a := 4096) (b := 16)
  have e2 : n % 4096 = n % 256 + 256 * (n / 256 % 16) := Nat.mod_mul (a := 256) (b := 16)
  have e1 : n % 256 = n % 16 + 16 * (n / 16 % 16) := Nat.mod_mul (a := 16) (b := 16)
  rwa [Nat.mod_eq_of_lt h, e2, e1] at e3

theorem hex4U_inj (n m : Nat) (hn : n < 65536) (hm : m < 65536) (h : hex4U n = hex4U m) : n = m := by
  simp only [hex4U, List.cons.injEq, and_true] at h
  obtain ⟨h1, h2, h3, h4⟩ := h
  rw [digits4 n hn, digits4 m hm, hexDigitU_inj _ _ h1, hexDigitU_inj _ _ h2, hexDigitU_inj _ _ h3,
    hexDigitU_inj _ _ h4]

/-! ### every BootOrder value, odd lengths included (F35 repair) -/

theorem bootOrder_entries : ∀ bs : Bytes, Impl.bootOrder bs = (Spec.entriesLE bs).map Spec.fwBootName
  | [] => rfl
  | [_] => rfl
  | a :: b :: r => by
    rw [Impl.bootOrder, Spec.entriesLE, List.map_cons, bootOrder_entries r]; rfl

theorem entriesLE_eq_units : ∀ bs : Bytes, Spec.entriesLE bs = (bytesToUnits bs).1
  | [] => rfl
  | [_] => rfl
  | a :: b :: r => by rw [Spec.entriesLE, bytesToUnits, entriesLE_eq_units r]

theorem entriesLE_length : ∀ bs : Bytes, (Spec.entriesLE bs).length = bs.length / 2
  | [] => rfl
  | [_] => (Nat.div_eq_of_lt (Nat.lt_succ_self 1)).symm
  | a :: b :: r => by
    rw [Spec.entriesLE, List.length_cons, entriesLE_length r, List.length_cons, List.length_cons, Nat.add_assoc,
      Nat.add_div_right _ (by decide)]

theorem entriesLE_lt (bs : Bytes) : ∀ n ∈ Spec.entriesLE bs, n < 65536 := by
  rw [entriesLE_eq_units]
  exact bytesToUnits_lt bs

theorem entriesLE_get : ∀ (bs : Bytes) (k : Nat), k < bs.length / 2 →
    (Spec.entriesLE bs)[k]? = some (le16At bs (2 * k))
  | [], k, h => by simp at h
  | [_], k, h => by simp only [List.length_cons, List.length_nil] at h; omega
  | a :: b :: r, 0, _ => rfl
  | a :: b :: r, k + 1, h => by
    rw [List.length_cons, List.length_cons, Nat.add_assoc, Nat.add_div_right _ (by decide)] at h
    rw [Spec.entriesLE, List.getElem?_cons_succ, entriesLE_get r k (Nat.lt_of_succ_lt_succ h), Nat.mul_succ]
    rfl

theorem entriesLE_eq_range (bs : Bytes) :
    Spec.entriesLE bs = (List.range (bs.length / 2)).map (fun k => le16At bs (2 * k)) := by
  apply List.ext_getElem?
  intro k
  by_cases hk : k < bs.length / 2
  · rw [entriesLE_get bs k hk, List.getElem?_map, List.getElem?_range hk]; rfl
  · rw [List.getElem?_eq_none (by rw [entriesLE_length]; omega),
      List.getElem?_eq_none (by rw [List.length_map, List.length_range]; omega)]

theorem entriesLE_flatMap (ns : List Nat) (h : ∀ n ∈ ns, n < 65536) :
    Spec.entriesLE (ns.flatMap le16) = ns := by
  have := bytesToUnits_units ns h []
  rw [List.append_nil] at this
  rw [entriesLE_eq_units, ← unitsToBytes, this]
  exact List.append_nil ns

theorem bootOrder_le16 (n : Nat) (h : n < 65536) (r : Bytes) :
    Impl.bootOrder (le16 n ++ r) = Spec.fwBootName n :: Impl.bootOrder r := by
  rw [bootOrder_entries, bootOrder_entries, entriesLE_eq_units, entriesLE_eq_units, bytesToUnits_le16 n h r]
  rfl

theorem entriesLE_append_single : ∀ (xs : Bytes) (a : UInt8), xs.length % 2 = 0 →
    Spec.entriesLE (xs ++ [a]) = Spec.entriesLE xs
  | [], _, _ => rfl
  | [_], _, h => by simp at h
  | x :: y :: r, a, h => by
    rw [List.length_cons, List.length_cons, Nat.add_assoc, Nat.add_mod_right] at h
    rw [List.cons_append, List.cons_append, Spec.entriesLE, entriesLE_append_single r a h, Spec.entriesLE]

theorem bootOrder_append_single (xs : Bytes) (a : UInt8) (h : xs.length % 2 = 0) :
    Impl.bootOrder (xs ++ [a]) = Impl.bootOrder xs := by
  rw [bootOrder_entries, bootOrder_entries, entriesLE_append_single xs a h]

theorem Impl.bootOrder_length (bs : Bytes) : (bootOrder bs).length = bs.length / 2 := by
  rw [bootOrder_entries, List.length_map, entriesLE_length]

theorem Impl.bootOrder_names (bs : Bytes) : ∀ n ∈ bootOrder bs, n.length = 8 := by
  rw [bootOrder_entries]
  intro n hn
  obtain ⟨k, _, rfl⟩ := List.mem_map.mp hn
  rfl

namespace Impl

/-! ### the readers return, and what they return or leave is bounded by the input -/

/-- what one turn of the device-path loop leaves: at "stop" a 4-byte header was there, otherwise the rest is shorter
    than the input by the header at least -/
def NodePost (bs : Bytes) : Option (Node × Bytes) → Prop
  | none => 4 ≤ bs.length
  | some (_, r) => r.length + 4 ≤ bs.length

/-- a node with a body of fixed size -/
theorem node_fixed {bs r : Bytes} (hr : r.length + 4 ≤ bs.length) (k : Nat) (g : Bytes → Node) :
    Outcome.Ensures (NodePost bs) (match readN k r with
      | .error _ => .err
      | .ok (x, r') => .ok (some (g x, r'))) :=
  .readN fun x r' e _ => .ok (show r'.length + 4 ≤ _ by rw [e, List.length_append] at hr; omega)

/-- the file-path node: a NUL-terminated UTF-16 string -/
theorem node_file {bs r : Bytes} (hr : r.length + 4 ≤ bs.length) (h : Bytes) :
    Outcome.Ensures (NodePost bs) (let (s, r') := readNullString r
      match parseUtf16 s with
      | .ok p => .ok (some (.file h p, r'))
      | .err => .err
      | .panic => .panic
      | .exit => .exit) := by
  dsimp only
  refine (parseUtf16_spec (readNullString r).1).elim (fun p _ => .ok ?_) .err
  show (readNullString r).2.length + 4 ≤ bs.length
  have := readNullString_length r
  omega

/-- one turn of the `ParseDevicePath` loop returns (F12) and consumes its 4 header bytes at least; the term follows
    the type / subtype cascade of `parseNode` leaf by leaf -/
theorem parseNode_spec (bs : Bytes) : (parseNode bs).Ensures (NodePost bs) := by
  unfold parseNode
  refine .readN fun h r e hl => ?_
  have hr : r.length + 4 ≤ bs.length := Nat.le_of_eq (by rw [e, List.length_append, hl, Nat.add_comm])
  exact .ite' (.ite' (node_fixed hr 2 _) (.ok hr)) <|
    .ite' (.ite' (node_fixed hr 8 _) (.ite' .err (.ok hr))) <|
    .ite' (.ite' (node_fixed hr 38 _) (.ite' (node_file hr h) (.ite' (node_fixed hr 16 _) (.ok hr)))) <|
    .ite' (.ite' (node_fixed hr 2 _) (.ite' (node_fixed hr 16 _) (.ok hr))) (.ok (show 4 ≤ _ from Nat.le_trans (Nat.le_add_left 4 _) hr))

/-- `ParseDevicePath` returns for every fuel, and a successful walk saw `ns.length + 1` headers of 4 bytes each -/
theorem parseDevicePath_spec (fuel : Nat) (bs : Bytes) :
    (parseDevicePath fuel bs).Ensures fun ns => 4 * (ns.length + 1) ≤ bs.length := by
  induction fuel generalizing bs with
  | zero => exact .err
  | succ fuel ih =>
    unfold parseDevicePath
    refine (parseNode_spec bs).elim (fun v hv => ?_) .err
    match v, hv with
    | none, hv => exact .ok (show 4 ≤ bs.length from hv)
    | some (n, r), hv =>
      dsimp only
      refine (ih r).elim (fun ns hns => .ok ?_) .err
      show 4 * (ns.length + 1) + 4 ≤ bs.length
      exact Nat.le_trans (Nat.add_le_add_right hns 4) hv

/-- enough fuel: one unit per 4 input bytes (plus one) -/
theorem parseDevicePath_fuel_irrel (f1 f2 : Nat) (bs : Bytes) :
    bs.length / 4 + 1 ≤ f1 → bs.length / 4 + 1 ≤ f2 → parseDevicePath f1 bs = parseDevicePath f2 bs := by
  refine fuel_irrel (fun bs => bs.length / 4 + 1) (fun _ _ h => absurd h (Nat.succ_ne_zero _)) ?_ f1 f2 bs
  intro f f' bs ih
  unfold parseDevicePath
  cases hn : parseNode bs with
  | ok v =>
    cases v with
    | none => rfl
    | some nr =>
      have : nr.2.length + 4 ≤ bs.length := (parseNode_spec bs).of_ok hn
      simp only
      rw [ih nr.2 (by omega)]
  | err => rfl
  | panic => rfl
  | exit => rfl

/-- `EFILoadOption.Unmarshal` returns; two bytes per character of the description, four per returned node, four for
    the end node and four of the six fixed header bytes -/
theorem loadOptionUnmarshal_spec (bs : Bytes) : (loadOptionUnmarshal bs).Ensures fun lo =>
    2 * lo.desc.length + 4 * (lo.nodes.length + 1) + 4 ≤ bs.length := by
  unfold loadOptionUnmarshal
  refine .readN fun a r1 e1 h1 => .readN fun l r2 e2 h2 => ?_
  dsimp only
  refine (parseUtf16_spec (readNullString r2).1).elim (fun d hd => ?_) .err
  refine (parseDevicePath_spec _ (readNullString r2).2).elim (fun ns hns => .ok ?_) .err
  show 2 * d.length + 4 * (ns.length + 1) + 4 ≤ bs.length
  have := readNullString_length r2
  rw [e1, e2, List.length_append, List.length_append]
  omega

end Impl

/-! ### the decoder inverts the encoder on well-formed load options -/

def hdrIs (h : Bytes) (ty sub : UInt8) : Prop := h.length = 4 ∧ h.take 2 = [ty, sub]

instance hdrIs.dec (h : Bytes) (ty sub : UInt8) : Decidable (hdrIs h ty sub) := by unfold hdrIs; exact inferInstance

theorem hdrIs.bytes {h : Bytes} {ty sub : UInt8} (hh : hdrIs h ty sub) :
    byteAt h 0 = ty.toNat ∧ byteAt h 1 = sub.toNat := by
  obtain ⟨hl, ht⟩ := hh
  match h, hl with
  | [a, b, _, _], _ =>
    cases ht
    exact ⟨rfl, rfl⟩

namespace Impl

/-- the nodes the round trip is stated for: those `Spec.encNode` has an encoding for (none for `vendor` and `generic`),
    each field within its width -/
def Node.WF : Node → Prop
  | .pci h fn dev => hdrIs h 1 1 ∧ fn < 256 ∧ dev < 256
  | .acpi h hid uid => hdrIs h 2 1 ∧ hid.length = 4 ∧ uid.length = 4
  | .hd h part start size sig fmt st =>
    hdrIs h 4 1 ∧ part < 2^32 ∧ start.length = 8 ∧ size.length = 8 ∧ sig.length = 16 ∧ fmt < 256 ∧ st < 256
  | .file h p => hdrIs h 4 4 ∧ ∀ c ∈ p, c ≠ '\x00'
  | .fwfile h name => hdrIs h 4 6 ∧ name.length = 16
  | .usb h port iface => hdrIs h 3 5 ∧ port < 256 ∧ iface < 256
  | .vendor _ _ => False
  | .generic _ => False

instance Node.decWF : (n : Node) → Decidable n.WF
  | .pci .. => by unfold Node.WF; exact inferInstance
  | .acpi .. => by unfold Node.WF; exact inferInstance
  | .hd .. => by unfold Node.WF; exact inferInstance
  | .file .. => by unfold Node.WF; exact inferInstance
  | .fwfile .. => by unfold Node.WF; exact inferInstance
  | .usb .. => by unfold Node.WF; exact inferInstance
  | .vendor _ _ => by unfold Node.WF; exact inferInstance
  | .generic _ => by unfold Node.WF; exact inferInstance

def LoadOption.WF (lo : LoadOption) : Prop :=
  lo.attrs < 2^32 ∧ lo.pathLen < 2^16 ∧ (∀ c ∈ lo.desc, c ≠ '\x00') ∧ ∀ n ∈ lo.nodes, n.WF

instance LoadOption.decWF (lo : LoadOption) : Decidable lo.WF := by unfold LoadOption.WF; exact inferInstance

theorem parseNode_end (rest : Bytes) : parseNode (Spec.endNode ++ rest) = .ok none := by
  unfold parseNode
  rw [readN_len (n := 4) Spec.endNode rest rfl]
  simp [byteAt, Spec.endNode]

/-- the fields `parseMediaDevicePath` cuts out of the 38 bytes of a hard-drive node (about a variable `x`: the caller
    keeps the 38 bytes folded) -/
theorem hd_fields (p start size sig : Bytes) (f s : UInt8) (hp : p.length = 4) (hs : start.length = 8)
    (hz : size.length = 8) (hg : sig.length = 16) (x : Bytes) (hx : x = p ++ (start ++ (size ++ (sig ++ [f, s])))) :
    x.length = 38 ∧ x.take 4 = p ∧ (x.drop 4).take 8 = start ∧ (x.drop 12).take 8 = size ∧
      (x.drop 20).take 16 = sig ∧ byteAt x 36 = f.toNat ∧ byteAt x 37 = s.toNat := by
  subst hx
  simp [byteAt, List.drop_append, List.drop_eq_nil_of_le, hp, hs, hz, hg]

theorem parseNode_encNode (n : Node) (h : n.WF) (rest : Bytes) :
    parseNode (Spec.encNode n ++ rest) = .ok (some (n, rest)) := by
  cases n with
  | pci hdr fn dev =>
    obtain ⟨hh, hf, hd⟩ := h
    rw [Spec.encNode, List.append_assoc, parseNode, readN_len (n := 4) hdr _ hh.1]
    -- type and subtype select the leaf of the cascade
    simp only [hh.bytes, UInt8.reduceToNat, ↓reduceIte]
    rw [readN_len (n := 2) [fn.toUInt8, dev.toUInt8] rest rfl]
    simp [byteAt, toUInt8_toNat_of_lt _ hf, toUInt8_toNat_of_lt _ hd]
  | acpi hdr hid uid =>
    obtain ⟨hh, h1, h2⟩ := h
    rw [Spec.encNode, List.append_assoc, List.append_assoc, parseNode, readN_len (n := 4) hdr _ hh.1]
    simp only [hh.bytes, UInt8.reduceToNat, Nat.reduceEqDiff, ↓reduceIte]
    rw [← List.append_assoc, readN_len (n := 8) (hid ++ uid) rest (by simp [h1, h2])]
    simp [List.take_left' h1, List.drop_left' h1]
  | hd hdr part start size sig fmt st =>
    obtain ⟨hh, hp, hs, hz, hg, hf, ht⟩ := h
    obtain ⟨x, hx⟩ : ∃ x, x = le32 part ++ (start ++ (size ++ (sig ++ [fmt.toUInt8, st.toUInt8]))) := ⟨_, rfl⟩
    obtain ⟨hl, e1, e2, e3, e4, e5, e6⟩ := hd_fields _ _ _ _ _ _ rfl hs hz hg x hx
    rw [toUInt8_toNat_of_lt _ hf] at e5
    rw [toUInt8_toNat_of_lt _ ht] at e6
    have hin : Spec.encNode (.hd hdr part start size sig fmt st) ++ rest = hdr ++ (x ++ rest) := by
      rw [hx, Spec.encNode]
      simp only [List.append_assoc]
    rw [hin, parseNode, readN_len (n := 4) hdr _ hh.1]
    simp only [hh.bytes, UInt8.reduceToNat, Nat.reduceEqDiff, ↓reduceIte]
    rw [readN_len (n := 38) x rest hl]
    simp [e1, e2, e3, e4, e5, e6, rd32_le32 _ hp]
  | file hdr p =>
    obtain ⟨hh, h1⟩ := h
    rw [Spec.encNode, List.append_assoc, parseNode, readN_len (n := 4) hdr _ hh.1]
    simp only [hh.bytes, UInt8.reduceToNat, Nat.reduceEqDiff, ↓reduceIte]
    rw [readNullString_marshal p h1 rest]
    simp [parseUtf16_marshal p h1]
  | fwfile hdr name =>
    obtain ⟨hh, h1⟩ := h
    rw [Spec.encNode, List.append_assoc, parseNode, readN_len (n := 4) hdr _ hh.1]
    simp only [hh.bytes, UInt8.reduceToNat, Nat.reduceEqDiff, ↓reduceIte]
    rw [readN_len (n := 16) name rest h1]
  | usb hdr port iface =>
    obtain ⟨hh, h1, h2⟩ := h
    rw [Spec.encNode, List.append_assoc, parseNode, readN_len (n := 4) hdr _ hh.1]
    simp only [hh.bytes, UInt8.reduceToNat, Nat.reduceEqDiff, ↓reduceIte]
    rw [readN_len (n := 2) [port.toUInt8, iface.toUInt8] rest rfl]
    simp [byteAt, toUInt8_toNat_of_lt _ h1, toUInt8_toNat_of_lt _ h2]
  | vendor hdr g => exact False.elim h
  | generic hdr => exact False.elim h

theorem parseDevicePath_enc (ns : List Node) (h : ∀ n ∈ ns, n.WF) (trailing : Bytes) (fuel : Nat)
    (hf : ns.length < fuel) :
    parseDevicePath fuel ((ns.map Spec.encNode).flatten ++ Spec.endNode ++ trailing) = .ok ns := by
  induction ns generalizing fuel with
  | nil =>
    cases fuel with
    | zero => exact absurd hf (Nat.not_lt_zero _)
    | succ f =>
      simp only [List.map_nil, List.flatten_nil, List.nil_append, parseDevicePath]
      rw [parseNode_end]
  | cons n ns ih =>
    cases fuel with
    | zero => exact absurd hf (Nat.not_lt_zero _)
    | succ f =>
      simp only [List.map_cons, List.flatten_cons, List.append_assoc, parseDevicePath]
      rw [parseNode_encNode n (h n (by simp))]
      simp only
      have := ih (fun x hx => h x (by simp [hx])) f (Nat.lt_of_succ_lt_succ hf)
      rw [List.append_assoc] at this
      rw [this]

end Impl

/-! ### the text form of a hard-drive node -/

theorem natHex_length_le (n : Nat) (h : n < 2^32) : (Impl.natHex n).length ≤ 8 := by
  unfold Impl.natHex
  rw [Nat.length_toDigits_le_iff (by omega) (by omega)]
  exact h

theorem pad8Hex_length (n : Nat) (h : n < 2^32) : (Impl.pad8Hex n).length = 8 := by
  have := natHex_length_le n h
  simp only [Impl.pad8Hex, List.length_append, List.length_replicate]
  omega

theorem toDigits16_lower (n : Nat) : ∀ c ∈ Nat.toDigits 16 n, isLowerHex c = true := by
  induction n using Nat.strongRecOn with
  | _ n ih =>
    rw [Nat.toDigits_eq_if (by omega)]
    split
    · next hlt => exact List.forall_mem_singleton.mpr (hexDigit_lower n hlt)
    · exact List.forall_mem_append.mpr
        ⟨ih (n / 16) (by omega), List.forall_mem_singleton.mpr (hexDigit_lower (n % 16) (by omega))⟩

theorem pad8Hex_lower (n : Nat) : ∀ c ∈ Impl.pad8Hex n, isLowerHex c = true := by
  intro c hc
  simp only [Impl.pad8Hex, Impl.natHex, List.mem_append, List.mem_replicate] at hc
  rcases hc with ⟨_, rfl⟩ | hc
  · decide
  · exact toDigits16_lower n c hc

theorem hdText_gpt (part : Nat) (start size sig : Bytes) :
    Impl.hdText part start size sig 2 =
      "HD(".toList ++ Nat.toDigits 10 part ++ ",GPT,".toList ++ (guidOfWire sig).format ++
        ",0x".toList ++ Impl.natHex (rd64 start) ++ ",0x".toList ++ Impl.natHex (rd64 size) ++ [')'] := by
  simp [Impl.hdText]

theorem hdText_mbr (part : Nat) (start size sig : Bytes) :
    Impl.hdText part start size sig 1 =
      "HD(".toList ++ Nat.toDigits 10 part ++ ",MBR,0x".toList ++ Impl.pad8Hex (rd32 (sig.take 4)) ++
        ",0x".toList ++ Impl.natHex (rd64 start) ++ ",0x".toList ++ Impl.natHex (rd64 size) ++ [')'] := by
  simp [Impl.hdText]

end GoUefi

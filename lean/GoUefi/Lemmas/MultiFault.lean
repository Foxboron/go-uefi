import GoUefi.Model.MultiFault
import GoUefi.Lemmas.Pe
/-!
# Helper lemmas for the positional multi-reader over a reader that may fail

Model: `GoUefi/Model/MultiFault.lean` (`multiReadAtE`, `copyAllE`, `hashInputE`).  The property
theorems are in `GoUefi/Properties/C01r.lean` and `GoUefi/Properties/C15r.lean`.

One part read either is good (`PartAns.good`: everything delivered, with `nil` or `io.EOF`) or ends
`multi.ReadAt` with an error (`multiReadAtE_none_good`, `multiReadAtE_good`).  As long as the part reads are good,
`multi.ReadAt` is the fault-free reader (`multiReadAtE_eq_pure`), which is exact (`multiReadAt_eq`, `Lemmas/Pe.lean`):
`multiReadAtE_exact`.  `copyAllE_exact` is the induction along the lines of the fault-free `copyAll_eq`.  The
hypothesis of all three, "no error was reported, or the reader delivers", serves the statements about any reader
(C15) and those about a conforming one (C01) alike.
-/
namespace GoUefi.Impl

/-! ### one part read -/

/-- the caller's reader did what it was asked: everything delivered, with `nil` or `io.EOF` -/
def PartAns.good (a : PartAns) (want : Nat) : Prop :=
  want ≤ a.n ∧ (a.err = .none ∨ a.err = .eof)

/-- the error `multi.ReadAt` makes of the answer to one part read (F21 repair) -/
def partErr (err : RdErr) (n want : Nat) : RdErr :=
  match err with
  | .eof => if n = want then .none else .unexpected
  | e => e

theorem partErr_ne_eof (err : RdErr) (n want : Nat) : partErr err n want ≠ .eof := by
  cases err <;> simp only [partErr] <;> (try split) <;> simp

theorem partErr_eq_none_iff (err : RdErr) (n want : Nat) :
    partErr err n want = .none ↔ err = .none ∨ (err = .eof ∧ n = want) := by
  cases err <;> simp only [partErr] <;> (try split) <;> simp_all

section cons
variable (env : RdEnv) (p : Bytes) (ps : List Bytes) (off len k : Nat)

/-- one unfolding step of `multiReadAtE` on a part that is hit by the request, `want` being what
    the part is asked for and `a` the reader's answer -/
theorem multiReadAtE_cons (hl : len ≠ 0) (hpo : ¬ p.length ≤ off) {want : Nat}
    (hw : want = min len (p.length - off)) {a : PartAns} (ha : a = env k want) :
    multiReadAtE env (p :: ps) off len k =
      if partErr a.err (min a.n want) want ≠ .none then
        ((p.drop off).take (min a.n want), partErr a.err (min a.n want) want, k + 1)
      else if min a.n want < want then ((p.drop off).take (min a.n want), .other, k + 1)
      else if want = len then ((p.drop off).take (min a.n want), .none, k + 1)
      else
        ((p.drop off).take (min a.n want) ++ (multiReadAtE env ps 0 (len - want) (k + 1)).1,
         (multiReadAtE env ps 0 (len - want) (k + 1)).2.1,
         (multiReadAtE env ps 0 (len - want) (k + 1)).2.2) := by
  subst hw ha
  rw [multiReadAtE, if_neg hl, if_neg hpo]
  rfl

/-- a part read that reports an error, or comes back short, ends `multi.ReadAt` with an error -/
theorem multiReadAtE_none_good (hl : len ≠ 0) (hpo : ¬ p.length ≤ off)
    (h : (multiReadAtE env (p :: ps) off len k).2.1 = .none) :
    (env k (min len (p.length - off))).good (min len (p.length - off)) := by
  generalize hw : min len (p.length - off) = want
  generalize ha : env k want = a
  rw [multiReadAtE_cons env p ps off len k hl hpo hw.symm ha.symm] at h
  by_cases h1 : partErr a.err (min a.n want) want = .none
  · rw [if_neg (fun hn => hn h1)] at h
    by_cases h2 : min a.n want < want
    · rw [if_pos h2] at h
      cases h
    · exact ⟨by omega, ((partErr_eq_none_iff _ _ _).1 h1).imp_right And.left⟩
  · rw [if_pos h1] at h
    exact absurd h h1

/-- a good part read: `multi.ReadAt` is done when the request ends inside the part, and goes on into the following
    parts when it does not -/
theorem multiReadAtE_good (hl : len ≠ 0) (hpo : ¬ p.length ≤ off) {want : Nat}
    (hw : want = min len (p.length - off)) (hg : (env k want).good want) :
    multiReadAtE env (p :: ps) off len k =
      if want = len then ((p.drop off).take want, .none, k + 1)
      else
        ((p.drop off).take want ++ (multiReadAtE env ps 0 (len - want) (k + 1)).1,
         (multiReadAtE env ps 0 (len - want) (k + 1)).2.1,
         (multiReadAtE env ps 0 (len - want) (k + 1)).2.2) := by
  have hpe : partErr (env k want).err want want = .none :=
    (partErr_eq_none_iff _ _ _).2 (hg.2.elim .inl fun h => .inr ⟨h, rfl⟩)
  rw [multiReadAtE_cons env p ps off len k hl hpo hw rfl, Nat.min_eq_right hg.1, hpe,
    if_neg (fun h => h rfl), if_neg (Nat.lt_irrefl _)]

end cons

/-! ### `multi.ReadAt` -/

/-- the repaired reader never passes `io.EOF` on -/
theorem multiReadAtE_ne_eof (env : RdEnv) (ps : List Bytes) (off len k : Nat) :
    (multiReadAtE env ps off len k).2.1 ≠ .eof := by
  -- along the definition: the only error that is not a constant or the rest's is `partErr …`
  fun_induction multiReadAtE env ps off len k with
  | case1 _ len => by_cases hl : len = 0 <;> simp [hl]
  | case2 => nofun
  | case3 _ _ _ _ _ _ _ ih => exact ih
  | case4 _ _ _ _ _ _ _ want a n => exact partErr_ne_eof a.err n want
  | case5 => nofun
  | case6 => nofun
  | case7 _ _ _ _ _ _ _ _ _ _ _ _ _ _ _ _ _ _ x ih => rw [x] at ih; exact ih

/-- When `multi.ReadAt` reports no error — whatever the reader did — or when the reader delivers what it is asked
    for, every part read was good, and the read is the one of the fault-free reader (`multiReadAt`, Model/Pe.lean);
    a request that goes beyond the last part ends with `io.ErrUnexpectedEOF`. -/
theorem multiReadAtE_eq_pure (env : RdEnv) (ps : List Bytes) : ∀ (off len k : Nat),
    (multiReadAtE env ps off len k).2.1 = .none ∨ env.Delivers →
    ∃ k', multiReadAtE env ps off len k =
      ((multiReadAt ps off len).1, if (multiReadAt ps off len).2 then .unexpected else .none, k') := by
  induction ps with
  | nil =>
    intro off len k _
    refine ⟨k, ?_⟩
    rw [multiReadAtE, multiReadAt]
    by_cases hl : len = 0 <;> simp [hl]
  | cons p ps ih =>
    intro off len k hg
    by_cases hl : len = 0
    · exact ⟨k, by rw [multiReadAtE, multiReadAt, if_pos hl, if_pos hl]; rfl⟩
    by_cases hpo : p.length ≤ off
    · rw [multiReadAtE, if_neg hl, if_pos hpo] at hg ⊢
      rw [multiReadAt, if_neg hl, if_pos hpo]
      exact ih _ _ _ hg
    -- the part is hit: in either case the part read is good
    have hgood : (env k (min len (p.length - off))).good (min len (p.length - off)) :=
      hg.elim (multiReadAtE_none_good env p ps off len k hl hpo) fun hd => hd k _
    -- what the part is asked for is what the fault-free reader takes from it
    have hlen : ((p.drop off).take len).length = min len (p.length - off) := by
      rw [List.length_take, List.length_drop]
    have htake : (p.drop off).take (min len (p.length - off)) = (p.drop off).take len := by
      rw [List.take_eq_take_min (i := len), List.length_drop]
    rw [multiReadAtE_good env p ps off len k hl hpo rfl hgood, htake] at hg ⊢
    rw [multiReadAt, if_neg hl, if_neg hpo]
    simp only [hlen]
    by_cases hfit : min len (p.length - off) = len
    · rw [if_pos hfit, if_pos hfit]
      exact ⟨k + 1, rfl⟩
    · rw [if_neg hfit] at hg ⊢
      rw [if_neg hfit]
      obtain ⟨k', hk'⟩ := ih 0 (len - min len (p.length - off)) (k + 1) hg
      exact ⟨k', by rw [hk']⟩

/-- Under the same hypothesis a read within the parts is exactly the requested window of the concatenation, without
    error.  (The model turns a short count with `nil`, which is outside the `io.ReaderAt` contract, into an
    error; so no contract hypothesis is needed.) -/
theorem multiReadAtE_exact (env : RdEnv) (ps : List Bytes) (off len k : Nat)
    (h : off + len ≤ ps.flatten.length)
    (hg : (multiReadAtE env ps off len k).2.1 = .none ∨ env.Delivers) :
    ∃ k', multiReadAtE env ps off len k = ((ps.flatten.drop off).take len, .none, k') := by
  obtain ⟨k', hk'⟩ := multiReadAtE_eq_pure env ps off len k hg
  exact ⟨k', by rw [hk', multiReadAt_eq ps off len h]; rfl⟩

/-- in particular for a reader within the `io.ReaderAt` contract (the hypothesis is not needed) -/
theorem multiReadAtE_ok (env : RdEnv) (_hc : env.Contract) (ps : List Bytes) (off len k : Nat)
    (h : off + len ≤ ps.flatten.length) (he : (multiReadAtE env ps off len k).2.1 = .none) :
    (multiReadAtE env ps off len k).1 = (ps.flatten.drop off).take len := by
  obtain ⟨k', hk'⟩ := multiReadAtE_exact env ps off len k h (.inl he)
  rw [hk']

/-! ### `io.Copy` over the section reader -/

/-- the section reader is exhausted: `io.Copy` returns nil -/
theorem copyAllE_done (env : RdEnv) (ps : List Bytes) (chunk fuel off k : Nat)
    (ho : ps.flatten.length ≤ off) : copyAllE env ps chunk (fuel + 1) off k = ([], .none) := by
  rw [copyAllE, ← List.length_flatten]
  exact if_pos ho

/-- a read without error: `io.Copy` writes the bytes and goes on -/
theorem copyAllE_step (env : RdEnv) (ps : List Bytes) (chunk fuel off k : Nat)
    (ho : off < ps.flatten.length) (got : Bytes) (k' : Nat)
    (hm : multiReadAtE env ps off (min chunk (ps.flatten.length - off)) k = (got, .none, k'))
    (hg : got ≠ []) :
    copyAllE env ps chunk (fuel + 1) off k =
      (got ++ (copyAllE env ps chunk fuel (off + got.length) k').1,
       (copyAllE env ps chunk fuel (off + got.length) k').2) := by
  rw [copyAllE, ← List.length_flatten, if_neg (by omega)]
  simp only [hm]
  rw [if_neg (by simpa using hg)]

/-- a read with an error: `io.Copy` returns it (the repaired reader never reports `io.EOF`) -/
theorem copyAllE_err (env : RdEnv) (ps : List Bytes) (chunk fuel off k : Nat)
    (ho : off < ps.flatten.length)
    (hm : (multiReadAtE env ps off (min chunk (ps.flatten.length - off)) k).2.1 ≠ .none) :
    (copyAllE env ps chunk (fuel + 1) off k).2 ≠ .none := by
  rw [copyAllE, ← List.length_flatten, if_neg (by omega)]
  have hne := multiReadAtE_ne_eof env ps off (min chunk (ps.flatten.length - off)) k
  simp only []
  revert hm hne
  generalize multiReadAtE env ps off (min chunk (ps.flatten.length - off)) k = r
  obtain ⟨got, e, k'⟩ := r
  intro hm hne
  cases e
  · exact absurd rfl hm
  · exact absurd rfl hne
  · simp
  · simp

/-- When `io.Copy` returns nil — whatever the reader did — or when the reader delivers what it is
    asked for, everything from `off` on was written, unaltered, and nil is returned; for any
    positive buffer size. -/
theorem copyAllE_exact (env : RdEnv) (ps : List Bytes) (chunk : Nat) (hc : 0 < chunk) :
    ∀ (fuel off k : Nat), ps.flatten.length - off < fuel →
      (copyAllE env ps chunk fuel off k).2 = .none ∨ env.Delivers →
      copyAllE env ps chunk fuel off k = (ps.flatten.drop off, .none) := by
  intro fuel
  induction fuel with
  | zero => intro off k h; exact absurd h (Nat.not_lt_zero _)
  | succ fuel ih =>
    intro off k h hg
    by_cases ho : ps.flatten.length ≤ off
    · rw [copyAllE_done env ps chunk fuel off k ho, List.drop_of_length_le ho]
    have ho' : off < ps.flatten.length := Nat.lt_of_not_le ho
    -- this round asks for some bytes, and for no more than are left
    have hpos : 0 < min chunk (ps.flatten.length - off) := Nat.lt_min.2 ⟨hc, Nat.sub_pos_of_lt ho'⟩
    have hle : min chunk (ps.flatten.length - off) ≤ ps.flatten.length - off := Nat.min_le_right ..
    have hw : off + min chunk (ps.flatten.length - off) ≤ ps.flatten.length :=
      Nat.add_le_of_le_sub' (Nat.le_of_lt ho') hle
    -- in either case the read of this round reported no error
    have hm : (multiReadAtE env ps off (min chunk (ps.flatten.length - off)) k).2.1 = .none ∨
        env.Delivers :=
      hg.imp_left fun he => Classical.not_not.1 fun hm =>
        copyAllE_err env ps chunk fuel off k ho' hm he
    obtain ⟨k', hk'⟩ := multiReadAtE_exact env ps off _ k hw hm
    have hlen : ((ps.flatten.drop off).take (min chunk (ps.flatten.length - off))).length =
        min chunk (ps.flatten.length - off) := by
      rw [List.length_take, List.length_drop]; exact Nat.min_eq_left hle
    have hne : (ps.flatten.drop off).take (min chunk (ps.flatten.length - off)) ≠ [] :=
      List.ne_nil_of_length_pos (Nat.lt_of_lt_of_eq hpos hlen.symm)
    rw [copyAllE_step env ps chunk fuel off k ho' _ k' hk' hne, hlen] at hg ⊢
    rw [ih _ _ ?_ hg, ← List.drop_drop, List.take_append_drop]
    -- fewer are left
    rw [Nat.sub_add_eq]
    exact Nat.lt_of_lt_of_le (Nat.sub_lt (Nat.sub_pos_of_lt ho') hpos) (Nat.le_of_lt_succ h)

/-- in particular for a reader within the `io.ReaderAt` contract (the hypothesis is not needed) -/
theorem copyAllE_ok (env : RdEnv) (_hcon : env.Contract) (ps : List Bytes) (chunk : Nat)
    (hc : 0 < chunk) (fuel off k : Nat) (hf : ps.flatten.length - off + 1 ≤ fuel)
    (he : (copyAllE env ps chunk fuel off k).2 = .none) :
    (copyAllE env ps chunk fuel off k).1 = ps.flatten.drop off := by
  rw [copyAllE_exact env ps chunk hc fuel off k hf (.inl he)]

/-- the first part read of a copy comes back short (whatever error, or none, it reports):
    `io.Copy` fails -/
theorem copyAllE_first_short (env : RdEnv) (p : Bytes) (rest : List Bytes) (hp : p ≠ [])
    (chunk : Nat) (hc : 0 < chunk) (fuel k : Nat)
    (hs : ∀ want, 0 < want → (env k want).n < want) :
    (copyAllE env (p :: rest) chunk (fuel + 1) 0 k).2 ≠ .none := by
  have hpl : 0 < p.length := List.length_pos_iff.2 hp
  have ho : 0 < (p :: rest).flatten.length := by
    rw [List.flatten_cons, List.length_append]
    exact Nat.lt_of_lt_of_le hpl (Nat.le_add_right ..)
  apply copyAllE_err env (p :: rest) chunk fuel 0 k ho
  intro hm
  have hl : 0 < min chunk ((p :: rest).flatten.length - 0) := Nat.lt_min.2 ⟨hc, ho⟩
  obtain ⟨hn, _⟩ := multiReadAtE_none_good env p rest 0 _ k (Nat.ne_of_gt hl) (Nat.not_le_of_gt hpl) hm
  exact absurd hn (Nat.not_le_of_gt (hs _ (Nat.lt_min.2 ⟨hl, hpl⟩)))

/-! ### `Hash` -/

/-- `Hash` returns what `io.Copy` wrote when `io.Copy` returned nil, and nothing otherwise -/
theorem hashInputE_eq (env : RdEnv) (parts : List Bytes) (chunk : Nat) :
    hashInputE env parts chunk =
      if (copyAllE env (multiParts parts) chunk ((multiParts parts).flatten.length + 1) 0 0).2 = .none then
        some (copyAllE env (multiParts parts) chunk ((multiParts parts).flatten.length + 1) 0 0).1
      else none := by
  unfold hashInputE
  simp only []
  generalize copyAllE env (multiParts parts) chunk ((multiParts parts).flatten.length + 1) 0 0 = r
  obtain ⟨o, e⟩ := r
  cases e <;> rfl

theorem mem_multiParts_ne_nil (parts : List Bytes) : ∀ p ∈ multiParts parts, p ≠ [] := by
  intro p hp
  unfold multiParts at hp
  simpa using (List.mem_filter.1 hp).2

/-! ### the environments -/

theorem envOk_delivers : envOk.Delivers := fun _ _ => ⟨Nat.le_refl _, Or.inl rfl⟩

theorem envEofWith_delivers (j : Nat) : (envEofWith j).Delivers := by
  intro k want
  unfold envEofWith
  by_cases h : k = j
  · rw [if_pos h]; exact ⟨Nat.le_refl _, Or.inr rfl⟩
  · rw [if_neg h]; exact ⟨Nat.le_refl _, Or.inl rfl⟩

theorem RdEnv.Delivers.contract {env : RdEnv} (hd : env.Delivers) : env.Contract :=
  fun k want _ => (hd k want).1

theorem envFault_short (j kind want : Nat) (hw : 0 < want) : (envFault j kind j want).n < want := by
  unfold envFault
  rw [if_neg (fun h => h rfl)]
  match kind with
  | 0 => exact hw
  | 1 => by_cases h1 : want ≤ 1 <;> simp [h1] <;> omega
  | 2 => by_cases h1 : want ≤ 1 <;> simp [h1] <;> omega
  | 3 => exact hw
  | 4 => show want - 1 < want; omega
  | _ + 5 => exact hw

end GoUefi.Impl

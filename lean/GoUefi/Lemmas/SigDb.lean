import GoUefi.Lemmas.Outcome
import GoUefi.Spec.SigDb
import GoUefi.Model.SigDb
/-
  What the signature-database properties (C07 / C08 / C09, and C12 / C14 through the reader) rest on.
  Part 1: the specification codec (`GoUefi.Spec`) is a bijection on well-formed values (`WF32`) and
          prefix-free; the list decoder is analysed on an input whose 28-byte header is given field
          by field.
  Part 2: the reader model (`GoUefi.Impl.readDb`) against its encoder: it returns exactly the lists
          in `Wire` form, and reads their encodings back.
  Part 3: bridge Spec <-> Impl (`toSpec`, `ofSpec`): a successful read is the specification's
          decoding; on handled list types the converse.
  Part 4: database operations (C09).  `AppendBytes` is described by its four checks and its result,
          `Append` and `Remove` each by the one list they touch and the split of the database around
          it; invariant (`Inv`), size rule (`Sized`), types and the edit of the entry collection
          (`abs`) are read off that.  Then the databases a client can reach (`Reachable`; `BuiltOver`:
          through the library's own operations only, which keep the size rule), and the concrete
          values of the examples.
-/
namespace GoUefi

/-! ## Part 1: Spec codec -/

/-- `WF` alone bounds only `listSize`, which says nothing about `size` when the list has no entries;
    the round trip needs the SignatureSize field to fit its 32 bits as well. -/
def Spec.SList.WF32 (l : Spec.SList) : Prop := l.WF ∧ l.size < 2^32

/-- stated on the bytes, for `Spec.encSData` and `Impl.encSData` alike -/
theorem sigData_length {o d : Bytes} {size : Nat} (h : o.length = 16 ∧ d.length + 16 = size) :
    (o ++ d).length = size := by
  rw [List.length_append, h.1, Nat.add_comm, h.2]

theorem Spec.flatten_enc_length {size : Nat} (ss : List Spec.SData)
    (h : ∀ s ∈ ss, s.owner.length = 16 ∧ s.data.length + 16 = size) :
    ((ss.map Spec.encSData).flatten).length = ss.length * size :=
  length_flatten_map _ ss fun s hs => sigData_length (h s hs)

theorem Spec.splitSigs_enc {size : Nat} (ss : List Spec.SData) (rest : Bytes)
    (h : ∀ s ∈ ss, s.owner.length = 16 ∧ s.data.length + 16 = size) :
    Spec.splitSigs size ss.length ((ss.map Spec.encSData).flatten ++ rest) = ss := by
  induction ss with
  | nil => rfl
  | cons s ss ih =>
    obtain ⟨hs, hss⟩ := List.forall_mem_cons.mp h
    have hsz : (Spec.encSData s).length = size := sigData_length hs
    rw [List.map_cons, List.flatten_cons, List.append_assoc, List.length_cons, Spec.splitSigs,
      List.take_left' hsz, List.drop_left' hsz, ih hss, Spec.encSData, List.drop_left' hs.1,
      List.append_assoc, List.take_left' hs.1]

theorem Spec.splitSigs_ok {size : Nat} (hs : 16 ≤ size) (k : Nat) (bs : Bytes)
    (hl : k * size ≤ bs.length) :
    ((Spec.splitSigs size k bs).map Spec.encSData).flatten ++ bs.drop (k * size) = bs ∧
    (Spec.splitSigs size k bs).length = k ∧
    ∀ s ∈ Spec.splitSigs size k bs, s.owner.length = 16 ∧ s.data.length + 16 = size := by
  induction k generalizing bs with
  | zero => exact ⟨by rw [Nat.zero_mul]; rfl, rfl, fun _ h => nomatch h⟩
  | succ k ih =>
    rw [Nat.succ_mul, Nat.add_comm] at hl
    have hsz : size ≤ bs.length := Nat.le_trans (Nat.le_add_right _ _) hl
    obtain ⟨i1, i2, i3⟩ :=
      ih (bs.drop size) (by rw [List.length_drop]; exact Nat.le_sub_of_add_le' hl)
    refine ⟨?_, by rw [Spec.splitSigs, List.length_cons, i2], ?_⟩
    · rw [Spec.splitSigs, List.map_cons, List.flatten_cons, Spec.encSData, Nat.succ_mul,
        Nat.add_comm, ← List.drop_drop, List.append_assoc, i1]
      show bs.take 16 ++ (bs.take size).drop 16 ++ bs.drop size = bs
      have : bs.take 16 = (bs.take size).take 16 := by rw [List.take_take, Nat.min_eq_left hs]
      rw [this, List.take_append_drop, List.take_append_drop]
    · intro s hm
      rcases List.mem_cons.mp hm with rfl | hm
      · refine ⟨List.length_take_of_le (Nat.le_trans hs hsz), ?_⟩
        show ((bs.take size).drop 16).length + 16 = size
        rw [List.length_drop, List.length_take_of_le hsz, Nat.sub_add_cancel hs]
      · exact i3 s hm

theorem Spec.encList_length (l : Spec.SList)
    (h : ∀ s ∈ l.sigs, s.owner.length = 16 ∧ s.data.length + 16 = l.size) :
    (Spec.encList l).length = l.type.length + 12 + l.hdr.length + l.sigs.length * l.size := by
  simp only [Spec.encList, List.length_append, le32_length, Spec.flatten_enc_length l.sigs h]

/-- both decoders are analysed on an input in this form (`Spec.decodeList_hdr`, `Impl.readHeader_ok`) -/
theorem listHeader_split {bs : Bytes} (h : 28 ≤ bs.length) :
    ∃ ty a b c r4 : Bytes, bs = ty ++ (a ++ (b ++ (c ++ r4))) ∧ ty.length = 16 ∧ a.length = 4 ∧
      b.length = 4 ∧ c.length = 4 := by
  obtain ⟨ty, r1, rfl, hty⟩ := exists_take (n := 16) (Nat.le_trans (by decide) h)
  rw [List.length_append, hty] at h
  have h : 12 ≤ r1.length := Nat.le_of_add_le_add_left (a := 16) h
  obtain ⟨a, r2, rfl, ha⟩ := exists_take (n := 4) (Nat.le_trans (by decide) h)
  rw [List.length_append, ha] at h
  have h : 8 ≤ r2.length := Nat.le_of_add_le_add_left (a := 4) h
  obtain ⟨b, r3, rfl, hb⟩ := exists_take (n := 4) (Nat.le_trans (by decide) h)
  rw [List.length_append, hb] at h
  obtain ⟨c, r4, rfl, hc⟩ := exists_take (n := 4) (Nat.le_of_add_le_add_left (a := 4) h)
  exact ⟨ty, a, b, c, r4, rfl, hty, ha, hb, hc⟩

/-! The arithmetic of the header checks, `ListSize = 28 + HeaderSize + k * SignatureSize`, in the two
    directions the decoders and the encoders need it (the reader has `H = 0`). -/

theorem listSize_of_mod {L H S : Nat} (h2 : 28 + H ≤ L) (h3 : (L - 28 - H) % S = 0) :
    L = 28 + H + (L - 28 - H) / S * S := by
  rw [Nat.div_mul_cancel (Nat.dvd_of_mod_eq_zero h3), Nat.sub_sub, Nat.add_sub_cancel' h2]

theorem listSize_div {L H S k : Nat} (hS : 0 < S) (hL : L = 28 + H + k * S) :
    (L - 28 - H) / S = k ∧ (L - 28 - H) % S = 0 := by
  rw [hL, Nat.add_assoc, Nat.add_sub_cancel_left, Nat.add_sub_cancel_left]
  exact ⟨Nat.mul_div_cancel _ hS, Nat.mul_mod_left _ _⟩

theorem Spec.decodeList_hdr (ty a b c r4 : Bytes) (hty : ty.length = 16) (ha : a.length = 4)
    (hb : b.length = 4) (hc : c.length = 4) :
    Spec.decodeList (ty ++ (a ++ (b ++ (c ++ r4)))) =
      if 16 ≤ rd32 c ∧ 28 + rd32 b ≤ rd32 a ∧ (rd32 a - 28 - rd32 b) % rd32 c = 0 ∧
          rd32 a ≤ 28 + r4.length then
        some (⟨ty, r4.take (rd32 b), rd32 c,
              Spec.splitSigs (rd32 c) ((rd32 a - 28 - rd32 b) / rd32 c) (r4.drop (rd32 b))⟩,
            r4.drop (rd32 a - 28))
      else none := by
  obtain ⟨bs, e⟩ : ∃ bs, bs = ty ++ (a ++ (b ++ (c ++ r4))) := ⟨_, rfl⟩
  have e0 : bs.length = 28 + r4.length := by
    simp only [e, List.length_append, hty, ha, hb, hc, ← Nat.add_assoc]
  -- the fields, cut off one after the other
  have c0 : bs.take 16 = ty ∧ bs.drop 16 = _ := cut_field (i := 0) e hty
  have c16 : (bs.drop 16).take 4 = a ∧ bs.drop 20 = _ := cut_field c0.2 ha
  have c20 : (bs.drop 20).take 4 = b ∧ bs.drop 24 = _ := cut_field c16.2 hb
  have c24 : (bs.drop 24).take 4 = c ∧ bs.drop 28 = r4 := cut_field c20.2 hc
  rw [← e, Spec.decodeList]
  simp only [e0, c0.1, c16.1, c20.1, c24.1, c24.2]
  -- the decoder's five tests one after the other; the first cannot fail here
  rw [if_neg (Nat.not_lt.mpr (Nat.le_add_right _ _))]
  by_cases h1 : rd32 c < 16
  · rw [if_pos h1, if_neg (fun h => Nat.not_le.mpr h1 h.1)]
  rw [if_neg h1]
  by_cases h2 : rd32 a < 28 + rd32 b
  · rw [if_pos h2, if_neg (fun h => Nat.not_le.mpr h2 h.2.1)]
  rw [if_neg h2]
  by_cases h3 : (rd32 a - 28 - rd32 b) % rd32 c ≠ 0
  · rw [if_pos h3, if_neg (fun h => h3 h.2.2.1)]
  rw [if_neg h3]
  by_cases h4 : 28 + r4.length < rd32 a
  · rw [if_pos h4, if_neg (fun h => Nat.not_le.mpr h4 h.2.2.2)]
  rw [if_neg h4,
    if_pos ⟨Nat.not_lt.mp h1, Nat.not_lt.mp h2, Decidable.not_not.mp h3, Nat.not_lt.mp h4⟩]
  -- `drop L` of the whole input is `drop (L - 28)` of what follows the header
  have hL : bs.drop (rd32 a) = r4.drop (rd32 a - 28) := by
    rw [← c24.2, List.drop_drop,
      Nat.add_sub_cancel' (Nat.le_trans (Nat.le_add_right _ _) (Nat.not_lt.mp h2))]
  rw [← List.drop_drop, c24.2, hL]

theorem Spec.decodeList_ok {bs : Bytes} {l : Spec.SList} {rest : Bytes}
    (h : Spec.decodeList bs = some (l, rest)) : bs = Spec.encList l ++ rest ∧ l.WF32 := by
  by_cases h28 : bs.length < 28
  · rw [Spec.decodeList, if_pos h28] at h; nomatch h
  obtain ⟨ty, a, b, c, r4, rfl, hty, ha, hb, hc⟩ := listHeader_split (Nat.not_lt.mp h28)
  rw [Spec.decodeList_hdr ty a b c r4 hty ha hb hc] at h
  split at h
  · rename_i hcond
    obtain ⟨c1, c2, c3, c4⟩ := hcond
    simp only [Option.some.injEq, Prod.mk.injEq] at h
    obtain ⟨rfl, rfl⟩ := h
    have hL := listSize_of_mod c2 c3
    generalize (rd32 a - 28 - rd32 b) / rd32 c = k at hL
    rw [hL, Nat.add_assoc, Nat.add_le_add_iff_left] at c4
    have hH : (r4.take (rd32 b)).length = rd32 b :=
      List.length_take_of_le (Nat.le_trans (Nat.le_add_right _ _) c4)
    obtain ⟨s1, s2, s3⟩ := Spec.splitSigs_ok c1 k (r4.drop (rd32 b))
      (by rw [List.length_drop]; exact Nat.le_sub_of_add_le' c4)
    have hls : Spec.SList.listSize
        ⟨ty, r4.take (rd32 b), rd32 c, Spec.splitSigs (rd32 c) k (r4.drop (rd32 b))⟩ = rd32 a := by
      simp only [Spec.SList.listSize, hH, s2, hL]
    refine ⟨?_, ⟨hty, c1, by rw [hls]; exact rd32_lt _, s3⟩, rd32_lt _⟩
    simp only [Spec.encList, hls, hH, le32_rd32 _ ha, le32_rd32 _ hb, le32_rd32 _ hc,
      List.append_assoc]
    rw [hL, Nat.add_assoc, Nat.add_sub_cancel_left, ← List.drop_drop, s1, List.take_append_drop]
  · nomatch h

theorem Spec.decodeList_enc {l : Spec.SList} (rest : Bytes) (h : l.WF32) :
    Spec.decodeList (Spec.encList l ++ rest) = some (l, rest) := by
  obtain ⟨⟨hty, hsz, hls, hs⟩, hsz32⟩ := h
  have hflat := Spec.flatten_enc_length l.sigs hs
  have hh32 : l.hdr.length < 2^32 :=
    Nat.lt_of_le_of_lt (Nat.le_trans (Nat.le_add_left _ 28) (Nat.le_add_right _ _)) hls
  obtain ⟨hdiv, hmod⟩ :=
    listSize_div (H := l.hdr.length) (k := l.sigs.length) (Nat.lt_of_lt_of_le (by decide) hsz) rfl
  simp only [Spec.encList, List.append_assoc]
  rw [Spec.decodeList_hdr _ _ _ _ _ hty rfl rfl rfl, rd32_le32 _ hls, rd32_le32 _ hh32,
    rd32_le32 _ hsz32, Spec.SList.listSize,
    if_pos ⟨hsz, Nat.le_add_right _ _, hmod, by simp [hflat]; omega⟩, hdiv,
    List.take_left' rfl, List.drop_left' rfl, Spec.splitSigs_enc l.sigs rest hs,
    Nat.add_assoc, Nat.add_sub_cancel_left, ← hflat, ← List.drop_drop, List.drop_left' rfl,
    List.drop_left' rfl]

theorem Spec.encList_length_ge (l : Spec.SList) (h : l.type.length = 16) :
    28 ≤ (Spec.encList l).length := by
  simp only [Spec.encList, List.length_append, le32_length, h]
  exact Nat.le_add_right_of_le (Nat.le_add_right 28 _)

theorem Spec.encDb_cons (l : Spec.SList) (ls : List Spec.SList) :
    Spec.encDb (l :: ls) = Spec.encList l ++ Spec.encDb ls := rfl

theorem Spec.encDb_append (xs ys : List Spec.SList) :
    Spec.encDb (xs ++ ys) = Spec.encDb xs ++ Spec.encDb ys := by
  simp [Spec.encDb]

theorem Spec.decodeDbAux_ok {fuel : Nat} {bs : Bytes} {ls : List Spec.SList}
    (h : Spec.decodeDbAux fuel bs = some ls) : Spec.encDb ls = bs ∧ ∀ l ∈ ls, l.WF32 := by
  -- with or without fuel the decoder first tests for the end of the input
  have hend : ∀ {bs : Bytes} {ls : List Spec.SList}, bs.isEmpty = true → some [] = some ls →
      Spec.encDb ls = bs ∧ ∀ l ∈ ls, l.WF32 := fun he h => by
    cases h
    rw [List.isEmpty_iff.mp he]
    exact ⟨rfl, fun _ hl => nomatch hl⟩
  induction fuel generalizing bs ls with
  | zero =>
    rw [Spec.decodeDbAux] at h
    split at h
    · exact hend ‹_› h
    · nomatch h
  | succ fuel ih =>
    rw [Spec.decodeDbAux] at h
    split at h
    · exact hend ‹_› h
    split at h
    · nomatch h
    rename_i l rest h1
    split at h
    · nomatch h
    rename_i ls' h2
    cases h
    obtain ⟨e1, w1⟩ := Spec.decodeList_ok h1
    obtain ⟨e2, w2⟩ := ih h2
    exact ⟨by rw [Spec.encDb_cons, e2, ← e1], List.forall_mem_cons.mpr ⟨w1, w2⟩⟩

theorem Spec.decodeDbAux_enc (ls : List Spec.SList) (h : ∀ l ∈ ls, l.WF32) (fuel : Nat)
    (hf : (Spec.encDb ls).length ≤ fuel) : Spec.decodeDbAux fuel (Spec.encDb ls) = some ls := by
  induction ls generalizing fuel with
  | nil => cases fuel <;> rfl
  | cons l ls ih =>
    obtain ⟨hl, hls⟩ := List.forall_mem_cons.mp h
    have hpos : 0 < (Spec.encList l).length :=
      Nat.lt_of_lt_of_le (by decide) (Spec.encList_length_ge l hl.1.1)
    rw [Spec.encDb_cons] at hf ⊢
    have hne : (Spec.encList l ++ Spec.encDb ls).isEmpty = false :=
      List.isEmpty_eq_false_iff.mpr
        (List.append_ne_nil_of_left_ne_nil (List.ne_nil_of_length_pos hpos) _)
    -- the first list takes at least one unit of the fuel
    have hf' : (Spec.encDb ls).length < fuel :=
      Nat.lt_of_lt_of_le (Nat.lt_add_of_pos_left hpos) (List.length_append ▸ hf)
    cases fuel with
    | zero => exact absurd hf' (Nat.not_lt_zero _)
    | succ fuel =>
      simp only [Spec.decodeDbAux, hne, Bool.false_eq_true, if_false, Spec.decodeList_enc _ hl]
      rw [ih hls fuel (Nat.le_of_lt_succ hf')]

theorem Spec.decodeDb_ok {bs : Bytes} {ls : List Spec.SList} (h : Spec.decodeDb bs = some ls) :
    Spec.encDb ls = bs ∧ ∀ l ∈ ls, l.WF32 := Spec.decodeDbAux_ok h

theorem Spec.decodeDb_enc (ls : List Spec.SList) (h : ∀ l ∈ ls, l.WF32) :
    Spec.decodeDb (Spec.encDb ls) = some ls :=
  Spec.decodeDbAux_enc ls h _ (Nat.le_refl _)

/-- the encoding is prefix-free list by list: `decodeList_enc` reads the first list back whatever
    follows it -/
theorem Spec.encDb_prefix (ms ls : List Spec.SList) (q : Bytes) (hm : ∀ l ∈ ms, l.WF32)
    (hl : ∀ l ∈ ls, l.WF32) (h : Spec.encDb ms ++ q = Spec.encDb ls) :
    ms = ls.take ms.length ∧ q = Spec.encDb (ls.drop ms.length) := by
  induction ms generalizing ls with
  | nil => simpa [Spec.encDb] using h
  | cons m ms ih =>
    obtain ⟨hmw, hms⟩ := List.forall_mem_cons.mp hm
    cases ls with
    | nil =>
      -- the empty input does not decode to a list
      have d := Spec.decodeList_enc (Spec.encDb ms ++ q) hmw
      rw [← List.append_assoc, ← Spec.encDb_cons, h] at d
      simp [Spec.encDb, Spec.decodeList] at d
    | cons l ls =>
      obtain ⟨hlw, hls⟩ := List.forall_mem_cons.mp hl
      rw [Spec.encDb_cons, Spec.encDb_cons, List.append_assoc] at h
      have d1 := Spec.decodeList_enc (Spec.encDb ms ++ q) hmw
      have d2 := Spec.decodeList_enc (Spec.encDb ls) hlw
      rw [h, d2] at d1
      simp only [Option.some.injEq, Prod.mk.injEq] at d1
      obtain ⟨rfl, e⟩ := d1
      obtain ⟨i1, i2⟩ := ih ls hms hls e.symm
      exact ⟨by simp only [List.length_cons, List.take_succ_cons]; rw [← i1],
             by simpa using i2⟩

/-! ## Part 2: the reader model against its encoder -/

/-- the stored size fields agree with the contents, and there is no header: what makes `encList` of the Go value
    (size fields stored) the specification's encoding (size fields derived), `encList_toSpec`; `Inv` is this and `Nodup` -/
def Impl.SList.Canon (l : Impl.SList) : Prop :=
  l.type.length = 16 ∧ l.hdrSize = 0 ∧ l.hdr = [] ∧ 16 ≤ l.size ∧
  l.listSize = 28 + l.sigs.length * l.size ∧
  (∀ s ∈ l.sigs, s.owner.length = 16 ∧ s.data.length + 16 = l.size)

/-- the lists `ReadSignatureList` returns (`readList_ok`) and reads back (`readList_enc`) -/
def Impl.SList.Wire (l : Impl.SList) : Prop :=
  l.Canon ∧ l.listSize < 2^32 ∧ l.size < 2^32 ∧ Impl.handled l.type 0 l.size = true

theorem Impl.guidSha256_ne_guidX509 : Impl.guidSha256 ≠ Impl.guidX509 := by decide
theorem Impl.guidExternal_ne_guidX509 : Impl.guidExternal ≠ Impl.guidX509 := by decide
theorem Impl.guidExternal_ne_guidSha256 : Impl.guidExternal ≠ Impl.guidSha256 := by decide

/-- the list types `ReadSignatureList` decodes -/
def Impl.HandledType (t : Bytes) : Prop :=
  t = Impl.guidX509 ∨ t = Impl.guidSha256 ∨ t = Impl.guidExternal

theorem Impl.handled_iff {ty : Bytes} {h s : Nat} :
    Impl.handled ty h s = true ↔ h = 0 ∧ Impl.HandledType ty ∧
      (ty = Impl.guidSha256 → s = 48) ∧ (ty = Impl.guidExternal → s = 17) := by
  unfold Impl.handled Impl.HandledType
  by_cases h1 : ty = Impl.guidX509
  · rw [if_pos h1, decide_eq_true_iff, h1]
    exact ⟨fun h => ⟨h, .inl rfl, fun e => absurd e.symm Impl.guidSha256_ne_guidX509,
      fun e => absurd e.symm Impl.guidExternal_ne_guidX509⟩, fun h => h.1⟩
  by_cases h2 : ty = Impl.guidSha256
  · rw [if_neg h1, if_pos h2, Bool.and_eq_true, decide_eq_true_iff, decide_eq_true_iff, h2]
    exact ⟨fun h => ⟨h.1, .inr (.inl rfl), fun _ => h.2,
      fun e => absurd e.symm Impl.guidExternal_ne_guidSha256⟩, fun h => ⟨h.1, h.2.2.1 rfl⟩⟩
  by_cases h3 : ty = Impl.guidExternal
  · rw [if_neg h1, if_neg h2, if_pos h3, Bool.and_eq_true, decide_eq_true_iff, decide_eq_true_iff]
    exact ⟨fun h => ⟨h.1, .inr (.inr h3), fun e => absurd e h2, fun _ => h.2⟩,
      fun h => ⟨h.1, h.2.2.2 h3⟩⟩
  · rw [if_neg h1, if_neg h2, if_neg h3]
    exact ⟨fun h => (nomatch h),
      fun h => h.2.1.elim (absurd · h1) (·.elim (absurd · h2) (absurd · h3))⟩

theorem Impl.handled_hdr {ty : Bytes} {h s : Nat} (hh : Impl.handled ty h s = true) : h = 0 :=
  (Impl.handled_iff.mp hh).1

theorem Impl.handled_type {ty : Bytes} {h s : Nat} (hh : Impl.handled ty h s = true) :
    Impl.HandledType ty :=
  (Impl.handled_iff.mp hh).2.1

theorem Impl.readSig_ok {size : Nat} {bs : Bytes} {s : Impl.SData} {rest : Bytes} (hs : 16 ≤ size)
    (h : Impl.readSig size bs = .ok (s, rest)) :
    bs = Impl.encSData s ++ rest ∧ s.owner.length = 16 ∧ s.data.length + 16 = size := by
  unfold Impl.readSig at h
  obtain ⟨o, r1, rfl, ho, h⟩ := readN_bind_ok h
  obtain ⟨d, r2, rfl, hd, h⟩ := readN_bind_ok h
  obtain ⟨rfl, rfl⟩ := Prod.mk.inj (Except.ok.inj h)
  exact ⟨(List.append_assoc ..).symm, ho, by rw [hd, Nat.sub_add_cancel hs]⟩

theorem Impl.readSig_rest {size : Nat} {bs rest : Bytes} {s : Impl.SData} (hs : 16 ≤ size)
    (h : Impl.readSig size bs = .ok (s, rest)) : rest.length + 16 ≤ bs.length := by
  obtain ⟨e, ho, _⟩ := Impl.readSig_ok hs h
  rw [e, Impl.encSData, List.length_append, List.length_append, ho, Nat.add_right_comm,
    Nat.add_comm 16]
  exact Nat.le_add_right _ _

theorem Impl.readSig_enc {size : Nat} (s : Impl.SData) (rest : Bytes)
    (ho : s.owner.length = 16) (hd : s.data.length + 16 = size) :
    Impl.readSig size (Impl.encSData s ++ rest) = .ok (s, rest) := by
  have e1 : readN 16 (s.owner ++ (s.data ++ rest)) = .ok (s.owner, s.data ++ rest) :=
    readN_len _ _ ho
  have e2 : readN (size - 16) (s.data ++ rest) = .ok (s.data, rest) :=
    readN_len _ _ (Nat.eq_sub_of_add_eq hd)
  simp only [Impl.readSig, Impl.encSData, List.append_assoc, e1, e2]

theorem Impl.readSigs_ok {k size : Nat} {bs : Bytes} {ss : List Impl.SData} {rest : Bytes}
    (hs : 16 ≤ size) (h : Impl.readSigs size k bs = .ok (ss, rest)) :
    bs = (ss.map Impl.encSData).flatten ++ rest ∧ ss.length = k ∧
    ∀ s ∈ ss, s.owner.length = 16 ∧ s.data.length + 16 = size := by
  induction k generalizing bs ss with
  | zero =>
    obtain ⟨rfl, rfl⟩ := Prod.mk.inj (Except.ok.inj h)
    exact ⟨rfl, rfl, fun _ hm => nomatch hm⟩
  | succ k ih =>
    unfold Impl.readSigs at h
    split at h
    · nomatch h
    rename_i s r h1
    split at h
    · nomatch h
    rename_i ss' r' h2
    obtain ⟨rfl, rfl⟩ := Prod.mk.inj (Except.ok.inj h)
    obtain ⟨e1, w1⟩ := Impl.readSig_ok hs h1
    obtain ⟨e2, l2, w2⟩ := ih h2
    exact ⟨by simp [e1, e2, List.append_assoc], by simp [l2], List.forall_mem_cons.mpr ⟨w1, w2⟩⟩

theorem Impl.readSigs_enc {size : Nat} (ss : List Impl.SData) (rest : Bytes)
    (h : ∀ s ∈ ss, s.owner.length = 16 ∧ s.data.length + 16 = size) :
    Impl.readSigs size ss.length ((ss.map Impl.encSData).flatten ++ rest) = .ok (ss, rest) := by
  induction ss with
  | nil => rfl
  | cons s ss ih =>
    obtain ⟨⟨ho, hd⟩, hss⟩ := List.forall_mem_cons.mp h
    have ih' := ih hss
    simp only [List.map_cons, List.flatten_cons, List.length_cons, Impl.readSigs, List.append_assoc,
      Impl.readSig_enc s _ ho hd, ih']

theorem Impl.readSigs_steps {size k : Nat} {bs : Bytes} {ss : List Impl.SData} {rest : Bytes}
    (h : Impl.readSigs size k bs = .ok (ss, rest)) (hs : 16 ≤ size) :
    k * size + rest.length = bs.length ∧ ss.length = k := by
  obtain ⟨e, l, w⟩ := Impl.readSigs_ok hs h
  have := length_flatten_map Impl.encSData ss fun s hs => sigData_length (w s hs)
  rw [e, List.length_append, this, l]
  exact ⟨rfl, rfl⟩

theorem Impl.readHeader_eof {bs : Bytes} (h : Impl.readHeader bs = .error .eof) : bs = [] := by
  unfold Impl.readHeader at h
  split at h
  · rename_i e h1
    simp only [Except.error.injEq] at h; subst h
    exact readN_eof h1
  · split at h
    · simp at h
    · split at h
      · simp at h
      · split at h <;> simp at h

theorem Impl.readHeader_ok {bs ty : Bytes} {L H S : Nat} {r4 : Bytes}
    (h : Impl.readHeader bs = .ok ((ty, L, H, S), r4)) :
    ∃ a b c : Bytes, bs = ty ++ (a ++ (b ++ (c ++ r4))) ∧ ty.length = 16 ∧ a.length = 4 ∧
      b.length = 4 ∧ c.length = 4 ∧ L = rd32 a ∧ H = rd32 b ∧ S = rd32 c := by
  unfold Impl.readHeader at h
  obtain ⟨ty', r1, rfl, hty, h⟩ := readN_bind_ok h
  obtain ⟨a, r2, rfl, ha, h⟩ := readN_bind_ok h
  obtain ⟨b, r3, rfl, hb, h⟩ := readN_bind_ok h
  obtain ⟨c, r4', rfl, hc, h⟩ := readN_bind_ok h
  obtain ⟨⟨rfl, rfl, rfl, rfl⟩, rfl⟩ := Prod.mk.inj (Except.ok.inj h)
  exact ⟨a, b, c, rfl, hty, ha, hb, hc, rfl, rfl, rfl⟩

theorem Impl.readHeader_bounds {bs ty r4 : Bytes} {L H S : Nat}
    (h : Impl.readHeader bs = .ok ((ty, L, H, S), r4)) :
    r4.length + 28 = bs.length ∧ ty.length = 16 ∧ L < 2^32 ∧ S < 2^32 := by
  obtain ⟨a, b, c, rfl, hty, ha, hb, hc, rfl, rfl, rfl⟩ := Impl.readHeader_ok h
  refine ⟨?_, hty, rd32_lt a, rd32_lt c⟩
  simp only [List.length_append, hty, ha, hb, hc, ← Nat.add_assoc]
  exact Nat.add_comm _ _

theorem Impl.readHeader_enc (ty a b c r4 : Bytes) (hty : ty.length = 16) (ha : a.length = 4)
    (hb : b.length = 4) (hc : c.length = 4) :
    Impl.readHeader (ty ++ (a ++ (b ++ (c ++ r4)))) = .ok ((ty, rd32 a, rd32 b, rd32 c), r4) := by
  simp only [Impl.readHeader, readN_len ty _ hty, readN_len a _ ha, readN_len b _ hb,
    readN_len c _ hc]

theorem Impl.readList_nil : Impl.readList [] = .cleanEof := rfl

theorem Impl.readList_cleanEof {bs : Bytes} (h : Impl.readList bs = .cleanEof) : bs = [] := by
  unfold Impl.readList at h
  split at h
  · rename_i he; exact Impl.readHeader_eof he
  · simp at h
  · split at h
    · simp at h
    · split at h
      · simp at h
      · split at h <;> simp at h

theorem Impl.encList_length_ge (l : Impl.SList) (h : l.type.length = 16) :
    28 ≤ (Impl.encList l).length := by
  simp only [Impl.encList, List.length_append, le32_length, h]
  exact Nat.le_add_right_of_le (Nat.le_add_right 28 _)

theorem Impl.readList_ok {bs : Bytes} {l : Impl.SList} {rest : Bytes}
    (h : Impl.readList bs = .ok l rest) : bs = Impl.encList l ++ rest ∧ l.Wire := by
  unfold Impl.readList at h
  split at h
  · simp at h
  · simp at h
  rename_i ty L H S r4 hh
  split at h
  · simp at h
  rename_i hc
  split at h
  · simp at h
  rename_i hhd
  split at h
  · simp at h
  rename_i ss rest' h5
  simp only [Impl.LRes.ok.injEq] at h
  obtain ⟨rfl, rfl⟩ := h
  obtain ⟨a, b, c, rfl, lty, la, lb, lc, rfl, rfl, rfl⟩ := Impl.readHeader_ok hh
  have hhd' : Impl.handled ty (rd32 b) (rd32 c) = true := by simpa using hhd
  have hH : rd32 b = 0 := Impl.handled_hdr hhd'
  have hc' : 16 ≤ rd32 c ∧ 28 + rd32 b ≤ rd32 a ∧ (rd32 a - 28 - rd32 b) % rd32 c = 0 := by
    simp only [not_or, Nat.not_lt, Decidable.not_not] at hc; exact hc
  obtain ⟨c1, c2, c3⟩ := hc'
  obtain ⟨rfl, l5, w5⟩ := Impl.readSigs_ok c1 h5
  have hLS := listSize_of_mod c2 c3
  rw [hH, Nat.add_zero, Nat.sub_zero, ← l5] at hLS
  rw [hH] at hhd'
  refine ⟨?_, ⟨lty, hH, rfl, c1, hLS, w5⟩, rd32_lt _, rd32_lt _, hhd'⟩
  simp only [Impl.encList, le32_rd32 _ la, le32_rd32 _ lb, le32_rd32 _ lc, List.append_assoc,
    List.nil_append]

theorem Impl.readList_enc {l : Impl.SList} (rest : Bytes) (h : l.Wire) :
    Impl.readList (Impl.encList l ++ rest) = .ok l rest := by
  obtain ⟨ty, LS, HS, S, hdr, sigs⟩ := l
  obtain ⟨⟨hty, hHS, hhdr, hS, hLS, hs⟩, b1, b2, hh⟩ := h
  simp only at hty hHS hhdr hS hLS hs b1 b2 hh
  subst hHS hhdr
  have e : Impl.encList ⟨ty, LS, 0, S, [], sigs⟩ ++ rest =
      ty ++ (le32 LS ++ (le32 0 ++ (le32 S ++ ((sigs.map Impl.encSData).flatten ++ rest)))) := by
    simp only [Impl.encList, List.append_assoc, List.nil_append]
  obtain ⟨hk, hm⟩ := listSize_div (H := 0) (Nat.lt_of_lt_of_le (by decide) hS) hLS
  rw [Nat.sub_zero] at hk
  have r0 : rd32 (le32 0) = 0 := rd32_le32 0 (Nat.two_pow_pos 32)
  have hhdr := Impl.readHeader_enc ty (le32 LS) (le32 0) (le32 S)
    ((sigs.map Impl.encSData).flatten ++ rest) hty rfl rfl rfl
  rw [rd32_le32 _ b1, rd32_le32 _ b2, r0] at hhdr
  rw [e]
  simp only [Impl.readList, hhdr]
  -- none of the three header tests fails
  rw [if_neg (not_or.mpr ⟨Nat.not_lt.mpr hS,
    not_or.mpr ⟨Nat.not_lt.mpr (hLS ▸ Nat.le_add_right _ _), not_not_intro hm⟩⟩)]
  simp only [hh, Bool.not_true, Bool.false_eq_true, if_false, hk, Impl.readSigs_enc sigs rest hs]

theorem Impl.encDb_cons (l : Impl.SList) (ls : Impl.Db) :
    Impl.encDb (l :: ls) = Impl.encList l ++ Impl.encDb ls := rfl

theorem Impl.encDb_append (a b : Impl.Db) : Impl.encDb (a ++ b) = Impl.encDb a ++ Impl.encDb b := by
  simp [Impl.encDb]

theorem Impl.readDbAux_ok {fuel : Nat} {bs : Bytes} {db : Impl.Db}
    (h : Impl.readDbAux fuel bs = some db) : bs = Impl.encDb db ∧ ∀ l ∈ db, l.Wire := by
  induction fuel generalizing bs db with
  | zero => simp [Impl.readDbAux] at h
  | succ fuel ih =>
    simp only [Impl.readDbAux] at h
    split at h
    · rename_i he
      simp only [Option.some.injEq] at h; subst h
      exact ⟨by rw [Impl.readList_cleanEof he]; rfl, by simp⟩
    · simp at h
    · rename_i l rest h1
      split at h
      · simp at h
      · rename_i ls h2
        simp only [Option.some.injEq] at h; subst h
        obtain ⟨e1, w1⟩ := Impl.readList_ok h1
        obtain ⟨e2, w2⟩ := ih h2
        exact ⟨by rw [Impl.encDb_cons, ← e2, ← e1], List.forall_mem_cons.mpr ⟨w1, w2⟩⟩

theorem Impl.readDbAux_enc (db : Impl.Db) (h : ∀ l ∈ db, l.Wire) (fuel : Nat)
    (hf : (Impl.encDb db).length < fuel) : Impl.readDbAux fuel (Impl.encDb db) = some db := by
  induction db generalizing fuel with
  | nil =>
    cases fuel with
    | zero => exact absurd hf (Nat.not_lt_zero _)
    | succ fuel => simp [Impl.readDbAux, Impl.encDb, Impl.readList_nil]
  | cons l ls ih =>
    obtain ⟨hl, hls⟩ := List.forall_mem_cons.mp h
    have hpos : 0 < (Impl.encList l).length :=
      Nat.lt_of_lt_of_le (by decide) (Impl.encList_length_ge l hl.1.1)
    rw [Impl.encDb_cons, List.length_append] at hf
    cases fuel with
    | zero => exact absurd hf (Nat.not_lt_zero _)
    | succ fuel =>
      simp only [Impl.readDbAux, Impl.encDb_cons, Impl.readList_enc _ hl]
      -- the first list takes at least one unit of the fuel
      rw [ih hls fuel (Nat.lt_of_lt_of_le (Nat.lt_add_of_pos_left hpos) (Nat.le_of_lt_succ hf))]

theorem Impl.readDb_ok {bs : Bytes} {db : Impl.Db} (h : Impl.readDb bs = some db) :
    bs = Impl.encDb db ∧ ∀ l ∈ db, l.Wire := Impl.readDbAux_ok h

theorem Impl.readDb_enc (db : Impl.Db) (h : ∀ l ∈ db, l.Wire) :
    Impl.readDb (Impl.encDb db) = some db :=
  Impl.readDbAux_enc db h _ (Nat.lt_succ_self _)

/-- every list takes at least 28 bytes of the input -/
theorem Impl.readDbAux_fuel_irrel : ∀ (f1 f2 : Nat) (bs : Bytes),
    bs.length / 28 + 1 ≤ f1 → bs.length / 28 + 1 ≤ f2 → Impl.readDbAux f1 bs = Impl.readDbAux f2 bs := by
  refine fuel_irrel (fun bs : Bytes => bs.length / 28 + 1)
    (fun _ _ h => absurd h (Nat.succ_ne_zero _)) ?_
  intro f f' bs ih
  unfold Impl.readDbAux
  cases hl : Impl.readList bs with
  | cleanEof => rfl
  | bad => rfl
  | ok l rest =>
    obtain ⟨e, w⟩ := Impl.readList_ok hl
    have hge := Impl.encList_length_ge l w.1.1
    -- 28 bytes fewer, one turn fewer
    have hturn : rest.length / 28 + 1 ≤ bs.length / 28 := by
      rw [e, List.length_append, ← Nat.add_div_left _ (by decide : 0 < 28)]
      exact Nat.div_le_div_right (Nat.add_le_add_right hge _)
    simp only
    rw [ih rest (Nat.succ_lt_succ hturn)]

theorem Impl.readDb_data_le {bs : Bytes} {db : Impl.Db} (h : Impl.readDb bs = some db) :
    ∀ l ∈ db, ∀ s ∈ l.sigs, s.data.length ≤ bs.length := by
  obtain ⟨e, _⟩ := Impl.readDb_ok h
  intro l hl s hs
  -- the data is a part of its entry, the entry of its list, the list of the database
  have h1 : s.data.Sublist (Impl.encSData s) := List.sublist_append_right _ _
  have h2 : (Impl.encSData s).Sublist (l.sigs.map Impl.encSData).flatten :=
    List.sublist_flatten_of_mem (List.mem_map_of_mem hs)
  have h3 : ((l.sigs.map Impl.encSData).flatten).Sublist (Impl.encList l) :=
    List.sublist_append_right _ _
  have h4 : (Impl.encList l).Sublist (Impl.encDb db) :=
    List.sublist_flatten_of_mem (List.mem_map_of_mem hl)
  rw [e]
  exact ((h1.trans h2).trans (h3.trans h4)).length_le

/-! ## Part 3: bridge between the reader model and the specification codec -/

/-- the specification-level value of a list held by the implementation (size fields dropped) -/
def Impl.SList.toSpec (l : Impl.SList) : Spec.SList :=
  ⟨l.type, l.hdr, l.size, l.sigs.map fun s => ⟨s.owner, s.data⟩⟩

/-- the implementation-level value the specification prescribes (size fields derived) -/
def Impl.ofSpec (l : Spec.SList) : Impl.SList :=
  ⟨l.type, l.listSize, l.hdr.length, l.size, l.hdr, l.sigs.map fun s => ⟨s.owner, s.data⟩⟩

theorem Impl.toSpec_ofSpec (l : Spec.SList) : (Impl.ofSpec l).toSpec = l := by
  obtain ⟨ty, hdr, size, sigs⟩ := l
  simp [Impl.ofSpec, Impl.SList.toSpec, List.map_map, Function.comp_def]

theorem Impl.map_toSpec_ofSpec (ls : List Spec.SList) :
    (ls.map Impl.ofSpec).map Impl.SList.toSpec = ls := by
  rw [List.map_map]
  exact (List.map_congr_left fun l _ => Impl.toSpec_ofSpec l).trans (List.map_id' ls)

theorem Impl.encList_ofSpec (l : Spec.SList) : Impl.encList (Impl.ofSpec l) = Spec.encList l := by
  simp only [Impl.encList, Impl.ofSpec, Spec.encList, List.map_map]
  -- the two entry types differ in name only
  rfl

theorem Impl.encDb_ofSpec (ls : List Spec.SList) :
    Impl.encDb (ls.map Impl.ofSpec) = Spec.encDb ls := by
  rw [Impl.encDb, Spec.encDb, List.map_map]
  exact congrArg List.flatten (List.map_congr_left fun l _ => Impl.encList_ofSpec l)

theorem Impl.encList_toSpec {l : Impl.SList} (h : l.Canon) :
    Spec.encList l.toSpec = Impl.encList l := by
  obtain ⟨_, hH, hhdr, _, hLS, _⟩ := h
  simp only [Spec.encList, Impl.SList.toSpec, Impl.encList, Spec.SList.listSize,
    List.map_map, List.length_map, hhdr, hH, hLS, List.length_nil, Nat.add_zero]
  rfl

theorem Impl.encDb_toSpec {db : Impl.Db} (h : ∀ l ∈ db, l.Canon) :
    Spec.encDb (db.map Impl.SList.toSpec) = Impl.encDb db := by
  rw [Impl.encDb, Spec.encDb, List.map_map]
  exact congrArg List.flatten (List.map_congr_left fun l hl => Impl.encList_toSpec (h l hl))

theorem Impl.toSpec_wf32 {l : Impl.SList} (h : l.Canon) (b1 : l.listSize < 2^32)
    (b2 : l.size < 2^32) : l.toSpec.WF32 := by
  obtain ⟨hty, hH, hhdr, hS, hLS, hs⟩ := h
  refine ⟨⟨hty, hS, ?_, List.forall_mem_map.mpr hs⟩, b2⟩
  simp only [Spec.SList.listSize, Impl.SList.toSpec, List.length_map, hhdr, List.length_nil,
    Nat.add_zero]
  exact hLS ▸ b1

theorem Impl.ofSpec_wire {l : Spec.SList} (h : l.WF32)
    (hh : Impl.handled l.type l.hdr.length l.size = true) : (Impl.ofSpec l).Wire := by
  obtain ⟨⟨hty, hS, hLS, hs⟩, b2⟩ := h
  have h0 : l.hdr.length = 0 := Impl.handled_hdr hh
  refine ⟨⟨hty, h0, List.eq_nil_of_length_eq_zero h0, hS, ?_, List.forall_mem_map.mpr hs⟩,
    hLS, b2, ?_⟩
  · simp only [Impl.ofSpec, Spec.SList.listSize, List.length_map, h0, Nat.add_zero]
  · rw [← h0]; exact hh

theorem Impl.decodeDb_encDb {db : Impl.Db}
    (h : ∀ l ∈ db, l.Canon ∧ l.listSize < 2^32 ∧ l.size < 2^32) :
    Spec.decodeDb (Impl.encDb db) = some (db.map Impl.SList.toSpec) := by
  rw [← Impl.encDb_toSpec fun l hl => (h l hl).1]
  exact Spec.decodeDb_enc _ (List.forall_mem_map.mpr fun l hl =>
    Impl.toSpec_wf32 (h l hl).1 (h l hl).2.1 (h l hl).2.2)

theorem Impl.readDb_decodeDb {bs : Bytes} {db : Impl.Db} (h : Impl.readDb bs = some db) :
    Spec.decodeDb bs = some (db.map Impl.SList.toSpec) := by
  obtain ⟨e, w⟩ := Impl.readDb_ok h
  rw [e]
  exact Impl.decodeDb_encDb fun l hl => ⟨(w l hl).1, (w l hl).2.1, (w l hl).2.2.1⟩

theorem Impl.decodeDb_readDb {bs : Bytes} {ls : List Spec.SList} (h : Spec.decodeDb bs = some ls)
    (hh : ∀ l ∈ ls, Impl.handled l.type l.hdr.length l.size = true) :
    Impl.readDb bs = some (ls.map Impl.ofSpec) := by
  obtain ⟨e, w⟩ := Spec.decodeDb_ok h
  rw [← e, ← Impl.encDb_ofSpec]
  exact Impl.readDb_enc _ (List.forall_mem_map.mpr fun x hx => Impl.ofSpec_wire (w x hx) (hh x hx))

/-! ## Part 4: database operations (C09) -/

/-- representation invariant of one list: canonical form (`Canon`) and no duplicate entry -/
def Impl.SList.Inv (l : Impl.SList) : Prop :=
  l.type.length = 16 ∧ l.hdrSize = 0 ∧ l.hdr = [] ∧ 16 ≤ l.size ∧
  l.listSize = 28 + l.sigs.length * l.size ∧
  (∀ s ∈ l.sigs, s.owner.length = 16 ∧ s.data.length + 16 = l.size) ∧ l.sigs.Nodup

def Impl.Db.Inv (db : Impl.Db) : Prop := ∀ l ∈ db, l.Inv

theorem Impl.SList.Inv.canon {l : Impl.SList} (h : l.Inv) : l.Canon :=
  ⟨h.1, h.2.1, h.2.2.1, h.2.2.2.1, h.2.2.2.2.1, h.2.2.2.2.2.1⟩

theorem Impl.SList.inv_of_canon {l : Impl.SList} (h : l.Canon) (hnd : l.sigs.Nodup) : l.Inv :=
  ⟨h.1, h.2.1, h.2.2.1, h.2.2.2.1, h.2.2.2.2.1, h.2.2.2.2.2, hnd⟩

theorem Impl.SList.Inv.size_ge {l : Impl.SList} (h : l.Inv) : 16 ≤ l.size := h.2.2.2.1

theorem Impl.SList.Inv.listSize_eq {l : Impl.SList} (h : l.Inv) :
    l.listSize = 28 + l.sigs.length * l.size := h.2.2.2.2.1

theorem Impl.SList.Inv.entries {l : Impl.SList} (h : l.Inv) :
    ∀ s ∈ l.sigs, s.owner.length = 16 ∧ s.data.length + 16 = l.size := h.2.2.2.2.2.1

theorem Impl.SList.Inv.nodup {l : Impl.SList} (h : l.Inv) : l.sigs.Nodup := h.2.2.2.2.2.2

theorem Impl.SList.Inv.size_le {l : Impl.SList} (h : l.Inv) (hne : l.sigs ≠ []) :
    l.size ≤ l.listSize := by
  rw [h.listSize_eq]
  exact Nat.le_trans (Nat.le_mul_of_pos_left _ (List.length_pos_iff.mpr hne)) (Nat.le_add_left _ _)

theorem Impl.SList.Inv.size_lt {l : Impl.SList} (h : l.Inv) (b1 : l.listSize < 2^32)
    (b2 : l.sigs = [] → l.size < 2^32) : l.size < 2^32 :=
  if hsg : l.sigs = [] then b2 hsg else Nat.lt_of_le_of_lt (h.size_le hsg) b1

/-- the list's signature size is the one the specification fixes for its type (SHA-256: 16+32,
    externally managed: 16+1; none for X.509), and a list *without entries* carries a size field that
    fits the wire (a decoded one does; `Append`, `Remove` and a list built through `AppendBytes` never
    hold such a list; with entries, `Inv.size_lt` bounds the field by `listSize`) -/
def Impl.SList.Sized (l : Impl.SList) : Prop :=
  (l.type = Impl.guidSha256 → l.size = 48) ∧ (l.type = Impl.guidExternal → l.size = 17) ∧
  (l.sigs = [] → l.size < 2^32)

def Impl.Db.Sized (db : Impl.Db) : Prop := ∀ l ∈ db, l.Sized

/-- PEM normalisation is idempotent (decoding the DER it produced changes nothing) -/
def Impl.Env.Idem (E : Impl.Env) : Prop := ∀ t d, E.norm t (E.norm t d) = E.norm t d

theorem Impl.Env.idem_of_pem (E : Impl.Env)
    (h : ∀ d x, E.pemDecode d = some x → E.pemDecode x = none) : E.Idem := by
  intro t d
  by_cases ht : t = Impl.guidX509
  · cases hp : E.pemDecode d with
    | none => simp [Impl.Env.norm, ht, hp]
    | some x => simp [Impl.Env.norm, ht, hp, h d x hp]
  · simp [Impl.Env.norm, ht]

/-! ### the entry collection `abs` -/

theorem Impl.abs_nil : Impl.abs [] = [] := rfl

theorem Impl.abs_cons (l : Impl.SList) (ls : Impl.Db) :
    Impl.abs (l :: ls) = (l.sigs.map fun s => (l.type, s.owner, s.data)) ++ Impl.abs ls := rfl

theorem Impl.abs_append (a b : Impl.Db) : Impl.abs (a ++ b) = Impl.abs a ++ Impl.abs b := by
  simp [Impl.abs]

theorem Impl.abs_split (pre : Impl.Db) (l : Impl.SList) (post : Impl.Db) :
    Impl.abs (pre ++ l :: post) = Impl.abs pre ++ (Impl.abs [l] ++ Impl.abs post) := by
  rw [Impl.abs_append, ← List.singleton_append, Impl.abs_append]

theorem Impl.SList.has_iff (l : Impl.SList) (o d : Bytes) :
    l.has o d = true ↔ (⟨o, d⟩ : Impl.SData) ∈ l.sigs := by
  simp [Impl.SList.has]

theorem Impl.mem_abs {db : Impl.Db} {t o d : Bytes} :
    (t, o, d) ∈ Impl.abs db ↔ ∃ l ∈ db, l.type = t ∧ (⟨o, d⟩ : Impl.SData) ∈ l.sigs := by
  simp only [Impl.abs, List.mem_flatMap, List.mem_map, Prod.mk.injEq]
  constructor
  · rintro ⟨l, hl, s, hs, rfl, rfl, rfl⟩
    exact ⟨l, hl, rfl, hs⟩
  · rintro ⟨l, hl, rfl, hs⟩
    exact ⟨l, hl, ⟨o, d⟩, hs, rfl, rfl, rfl⟩

theorem Impl.has_iff (db : Impl.Db) (t o d : Bytes) :
    db.has t o d = true ↔ (t, o, d) ∈ Impl.abs db := by
  simp only [Impl.Db.has, List.any_eq_true, Bool.and_eq_true, beq_iff_eq, Impl.SList.has_iff,
    Impl.mem_abs]

/-! ### `AppendBytes` -/

/-- the list `AppendBytes` returns when it accepts the entry (`d`: the data as stored) -/
def Impl.SList.appended (l : Impl.SList) (o d : Bytes) : Impl.SList :=
  { l with sigs := l.sigs ++ [⟨o, d⟩], size := d.length + 16,
           listSize := l.listSize + (d.length + 16) }

/-- the four checks of `AppendBytes`, on the data as it would be stored: already there, not a SHA-256
    hash, not one byte of externally-managed data (F37), not of the size of the entries present -/
def Impl.SList.Refuses (l : Impl.SList) (o d : Bytes) : Prop :=
  (⟨o, d⟩ : Impl.SData) ∈ l.sigs ∨ (l.type = Impl.guidSha256 ∧ d.length ≠ 32) ∨
  (l.type = Impl.guidExternal ∧ d.length ≠ 1) ∨ (l.sigs ≠ [] ∧ d.length + 16 ≠ l.size)

theorem Impl.SList.not_refuses {l : Impl.SList} {o d : Bytes} :
    ¬ l.Refuses o d ↔ (⟨o, d⟩ : Impl.SData) ∉ l.sigs ∧
      (l.type = Impl.guidSha256 → d.length = 32) ∧ (l.type = Impl.guidExternal → d.length = 1) ∧
      (l.sigs = [] ∨ d.length + 16 = l.size) := by
  rw [Impl.SList.Refuses, Decidable.or_iff_not_imp_left (a := l.sigs = [])]
  simp only [not_or, not_and, ne_eq, Decidable.not_not]

/-- `AppendBytes` (F27 repair: PEM is decoded first, so what is looked up is what is stored) -/
theorem Impl.appendBytes_cases (E : Impl.Env) (l : Impl.SList) (o d : Bytes) :
    (l.Refuses o (E.norm l.type d) ∧ ∃ e, l.appendBytes E o d = .error e) ∨
    (¬ l.Refuses o (E.norm l.type d) ∧
      l.appendBytes E o d = .ok (l.appended o (E.norm l.type d))) := by
  unfold Impl.SList.appendBytes Impl.SList.Refuses
  simp only [Impl.SList.has_iff]
  generalize E.norm l.type d = d'
  by_cases h1 : (⟨o, d'⟩ : Impl.SData) ∈ l.sigs
  · rw [if_pos h1]; exact .inl ⟨.inl h1, _, rfl⟩
  by_cases h2 : l.type = Impl.guidSha256 ∧ d'.length ≠ 32
  · rw [if_neg h1, if_pos h2]; exact .inl ⟨.inr (.inl h2), _, rfl⟩
  by_cases h3 : l.type = Impl.guidExternal ∧ d'.length ≠ 1
  · rw [if_neg h1, if_neg h2, if_pos h3]; exact .inl ⟨.inr (.inr (.inl h3)), _, rfl⟩
  by_cases h4 : l.sigs ≠ [] ∧ d'.length + 16 ≠ l.size
  · rw [if_neg h1, if_neg h2, if_neg h3, if_pos h4]; exact .inl ⟨.inr (.inr (.inr h4)), _, rfl⟩
  · rw [if_neg h1, if_neg h2, if_neg h3, if_neg h4]
    exact .inr ⟨fun h => h.elim h1 (·.elim h2 (·.elim h3 h4)), rfl⟩

theorem Impl.appendBytes_ok_iff {E : Impl.Env} {l l' : Impl.SList} {o d : Bytes} :
    l.appendBytes E o d = .ok l' ↔
      ¬ l.Refuses o (E.norm l.type d) ∧ l.appended o (E.norm l.type d) = l' := by
  rcases Impl.appendBytes_cases E l o d with ⟨hr, e, he⟩ | ⟨hr, he⟩
  · rw [he]; exact ⟨fun h => (nomatch h), fun h => absurd hr h.1⟩
  · rw [he, Except.ok.injEq]; exact ⟨fun h => ⟨hr, h⟩, fun h => h.2⟩

theorem Impl.abs_appended (l : Impl.SList) (o d : Bytes) :
    Impl.abs [l.appended o d] = Impl.abs [l] ++ [(l.type, o, d)] := by
  simp [Impl.abs, Impl.SList.appended]

/-- an accepted entry keeps the invariant of a list that has it except, possibly, for `16 ≤ size`
    (`newList` has size 0): the new entry has the list's size, or is the first -/
theorem Impl.SList.appended_inv {l : Impl.SList} {o d : Bytes}
    (hty : l.type.length = 16) (hH : l.hdrSize = 0) (hhdr : l.hdr = [])
    (hLS : l.listSize = 28 + l.sigs.length * l.size)
    (hs : ∀ s ∈ l.sigs, s.owner.length = 16 ∧ s.data.length + 16 = l.size)
    (hnd : l.sigs.Nodup) (ho : o.length = 16) (hr : ¬ l.Refuses o d) : (l.appended o d).Inv := by
  obtain ⟨hnew, -, -, hsz⟩ := Impl.SList.not_refuses.mp hr
  refine ⟨hty, hH, hhdr, Nat.le_add_left _ _, ?_, ?_, ?_⟩
  · show l.listSize + (d.length + 16) =
      28 + (l.sigs ++ [(⟨o, d⟩ : Impl.SData)]).length * (d.length + 16)
    rw [List.length_append, List.length_singleton, Nat.succ_mul, hLS]
    rcases hsz with h | h
    · rw [h]; simp
    · rw [h, Nat.add_assoc]
  · intro s hm
    show s.owner.length = 16 ∧ s.data.length + 16 = d.length + 16
    rcases List.mem_append.mp (show s ∈ l.sigs ++ [(⟨o, d⟩ : Impl.SData)] from hm) with hm | hm
    · rcases hsz with h | h
      · rw [h] at hm; nomatch hm
      · rw [h]; exact hs s hm
    · rw [List.mem_singleton.mp hm]; exact ⟨ho, rfl⟩
  · show (l.sigs ++ [(⟨o, d⟩ : Impl.SData)]).Nodup
    rw [List.nodup_append]
    refine ⟨hnd, by simp, fun a ha b hb hab => hnew ?_⟩
    rw [← List.mem_singleton.mp hb, ← hab]; exact ha

theorem Impl.SList.Inv.appended {l : Impl.SList} {o d : Bytes} (h : l.Inv) (ho : o.length = 16)
    (hr : ¬ l.Refuses o d) : (l.appended o d).Inv :=
  Impl.SList.appended_inv h.1 h.2.1 h.2.2.1 h.listSize_eq h.entries h.nodup ho hr

theorem Impl.newList_appended_inv {t o d : Bytes} (ht : t.length = 16) (ho : o.length = 16)
    (hr : ¬ (Impl.newList t).Refuses o d) : ((Impl.newList t).appended o d).Inv :=
  Impl.SList.appended_inv ht rfl rfl rfl (fun _ h => nomatch h) .nil ho hr

/-- F37 repair: whatever list it started from, the list `AppendBytes` returns obeys the size rule
    (before the repair an externally-managed list of any size could be built) -/
theorem Impl.SList.appended_sized {l : Impl.SList} {o d : Bytes} (hr : ¬ l.Refuses o d) :
    (l.appended o d).Sized := by
  obtain ⟨-, h2, h3, -⟩ := Impl.SList.not_refuses.mp hr
  refine ⟨fun ht => ?_, fun ht => ?_, fun hn => ?_⟩
  · show d.length + 16 = 48
    rw [h2 ht]
  · show d.length + 16 = 17
    rw [h3 ht]
  · exact absurd hn (List.append_ne_nil_of_right_ne_nil _ (List.cons_ne_nil _ _))

/-! ### `Append` -/

theorem Impl.appendInto_nil (E : Impl.Env) (t o d : Bytes) :
    Impl.appendInto E t o d [] = ((Impl.newList t).appendBytes E o d).map ([·]) := by
  rw [Impl.appendInto]
  cases (Impl.newList t).appendBytes E o d <;> rfl

theorem Impl.appendInto_cons (E : Impl.Env) (t o d : Bytes) (l : Impl.SList) (ls : Impl.Db) :
    Impl.appendInto E t o d (l :: ls) =
      if l.type = t ∧ l.size = d.length + 16 then (l.appendBytes E o d).map (· :: ls)
      else (Impl.appendInto E t o d ls).map (l :: ·) := by
  rw [Impl.appendInto]
  split
  · cases l.appendBytes E o d <;> rfl
  · cases Impl.appendInto E t o d ls <;> rfl

/-- where `Append` puts an entry of type `t` and data `d`: into `l`, which stands in the database
    between `pre` and `post` and holds entries of that size, or is a new list behind all of `pre` -/
def Impl.AppendSlot (t d : Bytes) (db pre : Impl.Db) (l : Impl.SList) (post : Impl.Db) : Prop :=
  l.type = t ∧ (db = pre ++ l :: post ∧ l.size = d.length + 16 ∨
    db = pre ∧ l = Impl.newList t ∧ post = [])

theorem Impl.AppendSlot.abs {t d : Bytes} {db pre post : Impl.Db} {l : Impl.SList}
    (h : Impl.AppendSlot t d db pre l post) :
    Impl.abs db = Impl.abs pre ++ (Impl.abs [l] ++ Impl.abs post) := by
  rcases h.2 with ⟨rfl, -⟩ | ⟨rfl, rfl, rfl⟩
  · exact Impl.abs_split pre l post
  · exact (List.append_nil _).symm

theorem Impl.AppendSlot.mem {t d : Bytes} {db pre post : Impl.Db} {l : Impl.SList}
    (h : Impl.AppendSlot t d db pre l post) : l ∈ db ∨ l = Impl.newList t := by
  rcases h.2 with ⟨rfl, -⟩ | ⟨-, hl, -⟩
  · exact .inl (List.mem_append_right _ List.mem_cons_self)
  · exact .inr hl

theorem Impl.AppendSlot.mem_of_mem {t d : Bytes} {db pre post : Impl.Db} {l x : Impl.SList}
    (h : Impl.AppendSlot t d db pre l post) (hx : x ∈ pre ∨ x ∈ post) : x ∈ db := by
  rcases h.2 with ⟨rfl, -⟩ | ⟨rfl, -, rfl⟩
  · exact hx.elim (List.mem_append_left _) fun hx =>
      List.mem_append_right _ (List.mem_cons_of_mem _ hx)
  · exact hx.elim id fun hx => nomatch hx

/-- the list loop of `Append` is `AppendBytes` on the list of one slot, whose result takes the list's
    place (that the slot is the first of its kind is not recorded) -/
theorem Impl.appendInto_eq (E : Impl.Env) (t o d : Bytes) (db : Impl.Db) :
    ∃ pre l post, Impl.AppendSlot t d db pre l post ∧
      Impl.appendInto E t o d db = (l.appendBytes E o d).map (pre ++ · :: post) := by
  induction db with
  | nil => exact ⟨[], Impl.newList t, [], ⟨rfl, .inr ⟨rfl, rfl, rfl⟩⟩, Impl.appendInto_nil ..⟩
  | cons x xs ih =>
    rw [Impl.appendInto_cons]
    split
    · rename_i hc
      exact ⟨[], x, xs, ⟨hc.1, .inl ⟨rfl, hc.2⟩⟩, rfl⟩
    · obtain ⟨pre, l, post, ⟨ht, hsh⟩, e⟩ := ih
      refine ⟨x :: pre, l, post, ⟨ht, ?_⟩, ?_⟩
      · rcases hsh with ⟨h, hs⟩ | ⟨h, hl, hp⟩
        · exact .inl ⟨by rw [h]; rfl, hs⟩
        · exact .inr ⟨by rw [h], hl, hp⟩
      · rw [e]; cases l.appendBytes E o d <;> rfl

theorem Impl.appendInto_ok {E : Impl.Env} {t o d : Bytes} {db db' : Impl.Db}
    (h : Impl.appendInto E t o d db = .ok db') :
    ∃ pre l post, Impl.AppendSlot t d db pre l post ∧ ¬ l.Refuses o (E.norm t d) ∧
      db' = pre ++ l.appended o (E.norm t d) :: post := by
  obtain ⟨pre, l, post, hs, e⟩ := Impl.appendInto_eq E t o d db
  rw [e] at h
  cases ha : l.appendBytes E o d with
  | error _ => rw [ha] at h; nomatch h
  | ok l' =>
    obtain ⟨hr, rfl⟩ := Impl.appendBytes_ok_iff.mp ha
    rw [ha, Except.map, Except.ok.injEq] at h
    exact ⟨pre, l, post, hs, hs.1 ▸ hr, hs.1 ▸ h.symm⟩

theorem Impl.appendInto_abs {E : Impl.Env} {t o d : Bytes} {db db' : Impl.Db}
    (h : Impl.appendInto E t o d db = .ok db') :
    ∃ pre post, Impl.abs db = pre ++ post ∧ Impl.abs db' = pre ++ (t, o, E.norm t d) :: post := by
  obtain ⟨pre, l, post, hs, -, rfl⟩ := Impl.appendInto_ok h
  refine ⟨Impl.abs pre ++ Impl.abs [l], Impl.abs post, by rw [hs.abs, List.append_assoc], ?_⟩
  rw [Impl.abs_split, Impl.abs_appended, hs.1]
  simp only [List.append_assoc, List.singleton_append]

theorem Impl.appendInto_forall {P : Impl.SList → Prop} {E : Impl.Env} {t o d : Bytes}
    {db db' : Impl.Db} (h : Impl.appendInto E t o d db = .ok db') (hdb : ∀ l ∈ db, P l)
    (hp : ∀ l, l ∈ db ∨ l = Impl.newList t → l.type = t → ¬ l.Refuses o (E.norm t d) →
      P (l.appended o (E.norm t d))) : ∀ l ∈ db', P l := by
  obtain ⟨pre, l, post, hs, hr, rfl⟩ := Impl.appendInto_ok h
  exact List.forall_mem_append.mpr ⟨fun x hx => hdb x (hs.mem_of_mem (.inl hx)),
    List.forall_mem_cons.mpr ⟨hp l hs.mem hs.1 hr, fun x hx => hdb x (hs.mem_of_mem (.inr hx))⟩⟩

theorem Impl.appendInto_sized {E : Impl.Env} {t o d : Bytes} {db db' : Impl.Db}
    (hs : Impl.Db.Sized db) (h : Impl.appendInto E t o d db = .ok db') : Impl.Db.Sized db' :=
  Impl.appendInto_forall h hs fun _ _ _ hr => Impl.SList.appended_sized hr

/-- for an entry that is new to the database and that normalisation leaves alone, the list loop
    fails by the per-type size rule only: the chosen list does not hold the entry, and it was chosen
    by the entry's size (F37: whatever lists are present, externally-managed data that is not one
    byte is refused) -/
theorem Impl.appendInto_error_iff {E : Impl.Env} {t o d : Bytes} {db : Impl.Db}
    (hd : E.norm t d = d) (hnew : (t, o, d) ∉ Impl.abs db) :
    (∃ e, Impl.appendInto E t o d db = .error e) ↔
      (t = Impl.guidSha256 ∧ d.length ≠ 32) ∨ (t = Impl.guidExternal ∧ d.length ≠ 1) := by
  obtain ⟨pre, l, post, ⟨rfl, hs⟩, e⟩ := Impl.appendInto_eq E t o d db
  have hl : ¬ ((⟨o, d⟩ : Impl.SData) ∈ l.sigs ∨ l.sigs ≠ [] ∧ d.length + 16 ≠ l.size) := by
    rcases hs with ⟨rfl, hs⟩ | ⟨-, hl, -⟩
    · exact fun h => h.elim
        (fun h => hnew (Impl.mem_abs.mpr ⟨l, List.mem_append_right _ List.mem_cons_self, rfl, h⟩))
        (fun h => h.2 hs.symm)
    · rw [hl]; exact fun h => h.elim (fun h => nomatch h) (fun h => h.1 rfl)
  rw [e]
  rcases Impl.appendBytes_cases E l o d with ⟨hr, e', he⟩ | ⟨hr, he⟩
  · rw [hd] at hr
    refine ⟨fun _ => ?_, fun _ => ⟨e', by rw [he]; rfl⟩⟩
    rcases hr with h | h | h | h
    · exact absurd (.inl h) hl
    · exact .inl h
    · exact .inr h
    · exact absurd (.inr h) hl
  · rw [hd] at hr
    rw [he]
    exact ⟨fun ⟨_, h⟩ => (nomatch h), fun h => absurd (.inr (h.elim .inl (.inr ∘ .inl))) hr⟩

/-- the first test of `Append` -/
theorem Impl.mem_schemes_iff {t : Bytes} :
    t ∈ Impl.schemes ↔ ¬ (!Impl.schemes.contains t) = true := by
  rw [Bool.not_eq_true', Bool.not_eq_false, List.contains_iff_mem]

theorem Impl.Db.append_ok {E : Impl.Env} {db db' : Impl.Db} {t o d : Bytes}
    (h : db.append E t o d = .ok db') :
    t ∈ Impl.schemes ∧ (t, o, E.norm t d) ∉ Impl.abs db ∧
      Impl.appendInto E t o (E.norm t d) db = .ok db' := by
  unfold Impl.Db.append at h
  split at h
  · simp at h
  rename_i h1
  split at h
  · simp at h
  rename_i h2
  refine ⟨Impl.mem_schemes_iff.mpr h1, ?_, h⟩
  rw [← Impl.has_iff]; exact h2

theorem Impl.schemes_length : ∀ t ∈ Impl.schemes, t.length = 16 := by decide

/-- `Append` keeps the invariant, idempotent normalisation or not: since the F27 repair the list-level
    duplicate check looks at what is stored -/
theorem Impl.Db.append_inv_raw {E : Impl.Env} {db db' : Impl.Db} {t o d : Bytes}
    (hinv : Impl.Db.Inv db) (ho : o.length = 16) (h : db.append E t o d = .ok db') :
    Impl.Db.Inv db' := by
  obtain ⟨hs, _, hi⟩ := Impl.Db.append_ok h
  exact Impl.appendInto_forall hi hinv fun l hl _ hr => by
    rcases hl with hl | rfl
    · exact (hinv l hl).appended ho hr
    · exact Impl.newList_appended_inv (Impl.schemes_length t hs) ho hr

/-! ### `Remove` -/

/-- what `Remove` leaves of the list it takes the entry from: nothing if that was its only entry -/
def Impl.SList.without (l : Impl.SList) (o d : Bytes) : Impl.Db :=
  if l.sigs.length = 1 then []
  else [{ l with sigs := l.sigs.erase ⟨o, d⟩, listSize := l.listSize - l.size }]

theorem Impl.abs_without {l : Impl.SList} {o d : Bytes} (hm : (⟨o, d⟩ : Impl.SData) ∈ l.sigs) :
    ∃ a b, Impl.abs [l] = a ++ (l.type, o, d) :: b ∧ Impl.abs (l.without o d) = a ++ b := by
  obtain ⟨a, b, -, hsplit, herase⟩ := List.exists_erase_eq hm
  refine ⟨a.map fun s => (l.type, s.owner, s.data), b.map fun s => (l.type, s.owner, s.data),
    by simp [Impl.abs, hsplit], ?_⟩
  unfold Impl.SList.without
  split
  · rename_i h1
    -- a list of one entry: nothing in front of it, nothing behind
    rw [hsplit, List.length_append, List.length_cons, ← Nat.add_assoc] at h1
    obtain ⟨ha, hb⟩ := Nat.add_eq_zero_iff.mp (Nat.succ.inj h1)
    rw [List.eq_nil_of_length_eq_zero ha, List.eq_nil_of_length_eq_zero hb]
    rfl
  · simp [Impl.abs, herase]

theorem Impl.SList.Inv.without {l : Impl.SList} {o d : Bytes} (hl : l.Inv)
    (hm : (⟨o, d⟩ : Impl.SData) ∈ l.sigs) : ∀ x ∈ l.without o d, x.Inv ∧ x.sigs ≠ [] := by
  unfold Impl.SList.without
  split
  · exact fun _ h => nomatch h
  · rename_i hlen
    intro x hx
    rw [List.mem_singleton.mp hx]
    have hpos : 0 < l.sigs.length := List.length_pos_of_mem hm
    have hel : (l.sigs.erase ⟨o, d⟩).length = l.sigs.length - 1 := List.length_erase_of_mem hm
    refine ⟨⟨hl.1, hl.2.1, hl.2.2.1, hl.size_ge, ?_,
      fun s hs => hl.entries s (List.mem_of_mem_erase hs), hl.nodup.erase _⟩, fun hnil => ?_⟩
    · show l.listSize - l.size = 28 + (l.sigs.erase ⟨o, d⟩).length * l.size
      rw [hel, hl.listSize_eq, Nat.sub_one_mul,
        Nat.add_sub_assoc (Nat.le_mul_of_pos_left _ hpos)]
    · rw [show l.sigs.erase ⟨o, d⟩ = [] from hnil] at hel
      exact hlen (Nat.le_antisymm (Nat.sub_eq_zero_iff_le.mp hel.symm) hpos)

theorem Impl.SList.mem_without {l x : Impl.SList} {o d : Bytes} (hx : x ∈ l.without o d) :
    x.type = l.type ∧ x.size = l.size := by
  unfold Impl.SList.without at hx
  split at hx
  · nomatch hx
  · rw [List.mem_singleton.mp hx]; exact ⟨rfl, rfl⟩

theorem Impl.removeFrom_cons (t o d : Bytes) (l : Impl.SList) (ls : Impl.Db) (b : Bool) :
    Impl.removeFrom t o d (l :: ls) b =
      if l.type = t ∧ l.size = d.length + 16 then
        if l.has o d then
          if l.sigs.length = 1 then .ok ls
          else .ok ({ l with sigs := l.sigs.erase ⟨o, d⟩, listSize := l.listSize - l.size } :: ls)
        else (Impl.removeFrom t o d ls true).map (l :: ·)
      else (Impl.removeFrom t o d ls b).map (l :: ·) := by
  rw [Impl.removeFrom]
  by_cases hc : l.type = t ∧ l.size = d.length + 16
  · rw [if_pos hc, if_pos hc]
    by_cases hh : l.has o d = true
    · rw [if_pos hh, if_pos hh]
    · rw [if_neg hh, if_neg hh]
      cases Impl.removeFrom t o d ls true <;> rfl
  · rw [if_neg hc, if_neg hc]
    cases Impl.removeFrom t o d ls b <;> rfl

/-- `Remove` takes the entry out of a list of type `t` and size `|d| + 16` that holds it (that it is
    the first such list is not recorded), and fails when there is none -/
theorem Impl.removeFrom_cases (t o d : Bytes) (db : Impl.Db) (b : Bool) :
    (∃ pre l post, db = pre ++ l :: post ∧ l.type = t ∧ l.size = d.length + 16 ∧
        (⟨o, d⟩ : Impl.SData) ∈ l.sigs ∧
        Impl.removeFrom t o d db b = .ok (pre ++ (l.without o d ++ post))) ∨
    ((∀ l ∈ db, l.type = t → l.size = d.length + 16 → (⟨o, d⟩ : Impl.SData) ∉ l.sigs) ∧
        ∃ e, Impl.removeFrom t o d db b = .error e) := by
  induction db generalizing b with
  | nil => exact .inr ⟨fun _ h => (nomatch h), _, rfl⟩
  | cons x xs ih =>
    by_cases hit : (x.type = t ∧ x.size = d.length + 16) ∧ x.has o d = true
    · refine .inl ⟨[], x, xs, rfl, hit.1.1, hit.1.2, (Impl.SList.has_iff ..).mp hit.2, ?_⟩
      rw [Impl.removeFrom_cons, if_pos hit.1, if_pos hit.2]
      unfold Impl.SList.without
      split <;> rfl
    · -- `x` is passed over, with one flag or the other
      obtain ⟨b', hb'⟩ : ∃ b', Impl.removeFrom t o d (x :: xs) b =
          (Impl.removeFrom t o d xs b').map (x :: ·) := by
        rw [Impl.removeFrom_cons]
        by_cases hc : x.type = t ∧ x.size = d.length + 16
        · rw [if_pos hc, if_neg (fun h => hit ⟨hc, h⟩)]; exact ⟨true, rfl⟩
        · rw [if_neg hc]; exact ⟨b, rfl⟩
      rw [hb']
      rcases ih b' with ⟨pre, l, post, rfl, h1, h2, h3, he⟩ | ⟨hn, e, he⟩
      · rw [he]; exact .inl ⟨x :: pre, l, post, rfl, h1, h2, h3, rfl⟩
      · rw [he]
        refine .inr ⟨fun l hl h1 h2 hm => ?_, e, rfl⟩
        rcases List.mem_cons.mp hl with rfl | hl
        · exact hit ⟨⟨h1, h2⟩, (Impl.SList.has_iff ..).mpr hm⟩
        · exact hn l hl h1 h2 hm

theorem Impl.removeFrom_split {t o d : Bytes} {db db' : Impl.Db} {b : Bool}
    (h : Impl.removeFrom t o d db b = .ok db') :
    ∃ pre l post, db = pre ++ l :: post ∧ l.type = t ∧ (⟨o, d⟩ : Impl.SData) ∈ l.sigs ∧
      db' = pre ++ (l.without o d ++ post) := by
  rcases Impl.removeFrom_cases t o d db b with ⟨pre, l, post, h1, h2, -, h3, he⟩ | ⟨-, e, he⟩
  · rw [he, Except.ok.injEq] at h; exact ⟨pre, l, post, h1, h2, h3, h.symm⟩
  · rw [he] at h; nomatch h

theorem Impl.removeFrom_forall {P : Impl.SList → Prop} {t o d : Bytes} {db db' : Impl.Db} {b : Bool}
    (h : Impl.removeFrom t o d db b = .ok db') (hdb : ∀ l ∈ db, P l)
    (hp : ∀ l ∈ db, (⟨o, d⟩ : Impl.SData) ∈ l.sigs → ∀ x ∈ l.without o d, P x) :
    ∀ l ∈ db', P l := by
  obtain ⟨pre, l, post, rfl, -, hm, rfl⟩ := Impl.removeFrom_split h
  exact List.forall_mem_append.mpr ⟨fun x hx => hdb x (List.mem_append_left _ hx),
    List.forall_mem_append.mpr ⟨hp l (List.mem_append_right _ List.mem_cons_self) hm,
      fun x hx => hdb x (List.mem_append_right _ (List.mem_cons_of_mem _ hx))⟩⟩

theorem Impl.removeFrom_inv {t o d : Bytes} {db db' : Impl.Db} {b : Bool}
    (hinv : Impl.Db.Inv db) (h : Impl.removeFrom t o d db b = .ok db') : Impl.Db.Inv db' :=
  Impl.removeFrom_forall h hinv fun l hl hm x hx => ((hinv l hl).without hm x hx).1

theorem Impl.removeFrom_sized {t o d : Bytes} {db db' : Impl.Db} {b : Bool}
    (hinv : Impl.Db.Inv db) (hs : Impl.Db.Sized db) (h : Impl.removeFrom t o d db b = .ok db') :
    Impl.Db.Sized db' :=
  Impl.removeFrom_forall h hs fun l hl hm x hx => by
    obtain ⟨e1, e2⟩ := Impl.SList.mem_without hx
    refine ⟨?_, ?_, fun hn => absurd hn ((hinv l hl).without hm x hx).2⟩
    · rw [e1, e2]; exact (hs l hl).1
    · rw [e1, e2]; exact (hs l hl).2.1

/-! ### reachability -/

theorem Impl.readDb_inv {bs : Bytes} {db : Impl.Db} (h : Impl.readDb bs = some db)
    (hnd : ∀ l ∈ db, l.sigs.Nodup) : Impl.Db.Inv db := fun l hl =>
  Impl.SList.inv_of_canon ((Impl.readDb_ok h).2 l hl).1 (hnd l hl)

theorem Impl.Db.forall_mem_appendList {P : Impl.SList → Prop} {db : Impl.Db} {l : Impl.SList} :
    (∀ x ∈ db.appendList l, P x) ↔ (∀ x ∈ db, P x) ∧ P l := by
  rw [Impl.Db.appendList, List.forall_mem_append, List.forall_mem_singleton]

theorem Impl.appendList_inv {db : Impl.Db} {l : Impl.SList} (hdb : Impl.Db.Inv db) (hl : l.Inv) :
    Impl.Db.Inv (db.appendList l) :=
  Impl.Db.forall_mem_appendList.mpr ⟨hdb, hl⟩

/-- the databases a client can build: start empty or from a decoded duplicate-free stream, then
    append / remove entries or append whole well-formed lists -/
inductive Impl.Reachable (E : Impl.Env) : Impl.Db → Prop
  | empty : Impl.Reachable E []
  | decoded {bs : Bytes} {db : Impl.Db} :
      Impl.readDb bs = some db → (∀ l ∈ db, l.sigs.Nodup) → Impl.Reachable E db
  | append {db db' : Impl.Db} {t o d : Bytes} :
      Impl.Reachable E db → o.length = 16 → db.append E t o d = .ok db' → Impl.Reachable E db'
  | remove {db db' : Impl.Db} {t o d : Bytes} :
      Impl.Reachable E db → db.remove t o d = .ok db' → Impl.Reachable E db'
  | appendList {db : Impl.Db} {l : Impl.SList} :
      Impl.Reachable E db → l.Inv → Impl.Reachable E (db.appendList l)

/-- every reachable database satisfies the invariant — for every normalisation function -/
theorem Impl.Reachable.inv_raw {E : Impl.Env} {db : Impl.Db}
    (h : Impl.Reachable E db) : Impl.Db.Inv db := by
  induction h with
  | empty => exact fun _ hl => nomatch hl
  | decoded hr hnd => exact Impl.readDb_inv hr hnd
  | append _ ho ha ih => exact Impl.Db.append_inv_raw ih ho ha
  | remove _ hr ih => exact Impl.removeFrom_inv ih hr
  | appendList _ hl ih => exact Impl.appendList_inv ih hl

/-! ### the per-type size rule (F37) and the databases built through the library's own operations -/

theorem Impl.SList.Wire.sized {l : Impl.SList} (h : l.Wire) : l.Sized :=
  have ⟨_, _, hsize, hh⟩ := h
  have ⟨_, _, hsha, hext⟩ := Impl.handled_iff.mp hh
  ⟨hsha, hext, fun _ => hsize⟩

/-- a list of a handled type that obeys the size rule passes the per-type switch of the decoder -/
theorem Impl.SList.Sized.handled {l : Impl.SList} (h : l.Sized) (ht : Impl.HandledType l.type) :
    Impl.handled l.type 0 l.size = true :=
  Impl.handled_iff.mpr ⟨rfl, ht, h.1, h.2.1⟩

/-- a list built through the library's list-level API: `NewSignatureList` followed by at least one
    successful `AppendBytes` (16-byte owners).  A list nothing was appended to is NOT among them: it
    has signature size 0 (known finding F20). -/
inductive Impl.ListBuilt (E : Impl.Env) : Impl.SList → Prop
  | first {t o d : Bytes} {l : Impl.SList} : t.length = 16 → o.length = 16 →
      (Impl.newList t).appendBytes E o d = .ok l → Impl.ListBuilt E l
  | next {l l' : Impl.SList} {o d : Bytes} : Impl.ListBuilt E l → o.length = 16 →
      l.appendBytes E o d = .ok l' → Impl.ListBuilt E l'

theorem Impl.ListBuilt.inv {E : Impl.Env} {l : Impl.SList} (h : Impl.ListBuilt E l) : l.Inv := by
  induction h with
  | first ht ho ha =>
    obtain ⟨hr, rfl⟩ := Impl.appendBytes_ok_iff.mp ha
    exact Impl.newList_appended_inv ht ho hr
  | next _ ho ha ih =>
    obtain ⟨hr, rfl⟩ := Impl.appendBytes_ok_iff.mp ha
    exact ih.appended ho hr

theorem Impl.ListBuilt.sized {E : Impl.Env} {l : Impl.SList} (h : Impl.ListBuilt E l) : l.Sized := by
  cases h with
  | first _ _ ha =>
    obtain ⟨hr, rfl⟩ := Impl.appendBytes_ok_iff.mp ha
    exact Impl.SList.appended_sized hr
  | next _ _ ha =>
    obtain ⟨hr, rfl⟩ := Impl.appendBytes_ok_iff.mp ha
    exact Impl.SList.appended_sized hr

/-- the databases built through the library's own operations over the signature types `T`: the
    empty one or a decoded duplicate-free one, then `Append` of a type in `T` (16-byte owner),
    `Remove`, and `AppendList` of a list of a type in `T` that was itself built through
    `NewSignatureList` / `AppendBytes` -/
inductive Impl.BuiltOver (E : Impl.Env) (T : Bytes → Prop) : Impl.Db → Prop
  | empty : Impl.BuiltOver E T []
  | decoded {bs : Bytes} {db : Impl.Db} :
      Impl.readDb bs = some db → (∀ l ∈ db, l.sigs.Nodup) → (∀ l ∈ db, T l.type) →
      Impl.BuiltOver E T db
  | append {db db' : Impl.Db} {t o d : Bytes} :
      Impl.BuiltOver E T db → o.length = 16 → T t → db.append E t o d = .ok db' →
      Impl.BuiltOver E T db'
  | remove {db db' : Impl.Db} {t o d : Bytes} :
      Impl.BuiltOver E T db → db.remove t o d = .ok db' → Impl.BuiltOver E T db'
  | appendList {db : Impl.Db} {l : Impl.SList} :
      Impl.BuiltOver E T db → Impl.ListBuilt E l → T l.type → Impl.BuiltOver E T (db.appendList l)

/-- they are among the reachable ones of C09 -/
theorem Impl.BuiltOver.reachable {E : Impl.Env} {T : Bytes → Prop} {db : Impl.Db}
    (h : Impl.BuiltOver E T db) : Impl.Reachable E db := by
  induction h with
  | empty => exact .empty
  | decoded hr hnd _ => exact .decoded hr hnd
  | append _ ho _ ha ih => exact .append ih ho ha
  | remove _ hr ih => exact .remove ih hr
  | appendList _ hl _ ih => exact .appendList ih hl.inv

theorem Impl.BuiltOver.sized {E : Impl.Env} {T : Bytes → Prop} {db : Impl.Db}
    (h : Impl.BuiltOver E T db) : Impl.Db.Sized db := by
  induction h with
  | empty => exact fun _ hl => nomatch hl
  | decoded hr _ _ => exact fun l hl => ((Impl.readDb_ok hr).2 l hl).sized
  | append _ _ _ ha ih => exact Impl.appendInto_sized ih (Impl.Db.append_ok ha).2.2
  | remove hb hr ih => exact Impl.removeFrom_sized hb.reachable.inv_raw ih hr
  | appendList _ hl _ ih => exact Impl.Db.forall_mem_appendList.mpr ⟨ih, hl.sized⟩

theorem Impl.BuiltOver.types {E : Impl.Env} {T : Bytes → Prop} {db : Impl.Db}
    (h : Impl.BuiltOver E T db) : ∀ l ∈ db, T l.type := by
  induction h with
  | empty => exact fun _ hl => nomatch hl
  | decoded _ _ ht => exact ht
  | append _ _ ht ha ih =>
    exact Impl.appendInto_forall (Impl.Db.append_ok ha).2.2 ih fun l _ hl _ =>
      show T l.type from hl ▸ ht
  | remove _ hr ih =>
    exact Impl.removeFrom_forall hr ih fun l hl _ x hx => by
      rw [(Impl.SList.mem_without hx).1]; exact ih l hl
  | appendList _ _ ht ih => exact Impl.Db.forall_mem_appendList.mpr ⟨ih, ht⟩

/-! ## concrete values for the non-vacuity examples in the property files -/
namespace Ex

def owner1 : Bytes := List.replicate 16 0x11
def owner2 : Bytes := List.replicate 16 0x22
def shaList : Impl.SList := ⟨Impl.guidSha256, 76, 0, 48, [], [⟨owner1, List.replicate 32 0xAA⟩]⟩
def x509List : Impl.SList :=
  ⟨Impl.guidX509, 68, 0, 20, [], [⟨owner1, [1, 2, 3, 4]⟩, ⟨owner2, [5, 6, 7, 8]⟩]⟩
def db : Impl.Db := [shaList, x509List]
/-- the wire form of `db`: 144 bytes -/
def bytes : Bytes := Impl.encDb db
def env : Impl.Env := ⟨fun _ => none⟩
def pemEnv : Impl.Env := ⟨fun d => if d = [0x2d] then some [0x30, 0x03, 0x02, 0x01] else none⟩

/-- `Except` has no `DecidableEq` in core; the examples compare results of operations by `decide` -/
scoped instance instDecEqExcept {ε α : Type} [DecidableEq ε] [DecidableEq α] :
    DecidableEq (Except ε α)
  | .ok a, .ok b =>
    if h : a = b then isTrue (by rw [h]) else isFalse (fun e => h (Except.ok.inj e))
  | .error a, .error b =>
    if h : a = b then isTrue (by rw [h]) else isFalse (fun e => h (Except.error.inj e))
  | .ok _, .error _ => isFalse (fun e => nomatch e)
  | .error _, .ok _ => isFalse (fun e => nomatch e)

theorem env_idem : env.Idem := Impl.Env.idem_of_pem env (fun _ _ h => by simp [env] at h)

theorem pemEnv_idem : pemEnv.Idem := by
  apply Impl.Env.idem_of_pem
  intro d x h
  simp only [pemEnv] at h ⊢
  split at h
  · simp only [Option.some.injEq] at h; subst h; decide
  · simp at h

/-- the decoder run on the wire form of `db`, once, for the examples in the property files -/
theorem readDb_bytes : Impl.readDb bytes = some db := by decide +kernel

theorem db_nodup : ∀ l ∈ db, l.sigs.Nodup := by decide +kernel

theorem db_inv : db.Inv := Impl.readDb_inv readDb_bytes db_nodup

theorem decodeDb_bytes : Spec.decodeDb bytes = some (db.map Impl.SList.toSpec) :=
  Impl.readDb_decodeDb readDb_bytes

/-- the cut after the first list (76 bytes) -/
theorem readDb_prefix : Impl.readDb (bytes.take 76) = some [shaList] := by decide +kernel

end Ex

end GoUefi

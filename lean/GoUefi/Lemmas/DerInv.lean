import GoUefi.Lemmas.Der
/-!
  *Inversion* lemmas about the cryptobyte-style reader of `GoUefi/Model/Der.lean`: whenever the
  reader succeeds, the bytes it consumed are exactly the canonical (DER-minimal) encoding that the
  builder `addASN1` would have produced for the values it returned.  In particular re-encoding the
  header of an accepted element reproduces the transmitted header byte for byte.

  Before that: the encoding determines tag and body (`addASN1_inj`).  After it: every component the
  reader returns is a contiguous sub-slice (`Sub`) of its input.
-/
namespace GoUefi.Der
open GoUefi

theorem encLen_length_of_head (n : Nat) :
    (encLen n).length =
      if ((encLen n).headD 0).toNat < 128 then 1 else ((encLen n).headD 0).toNat - 127 := by
  by_cases h : n < 128
  · rw [encLen, if_pos h, List.headD_cons, toUInt8_toNat_of_lt n (Nat.lt_trans h (by decide)), if_pos h]
    rfl
  · rw [encLen, if_neg h, List.headD_cons,
      toUInt8_toNat_of_lt _ (Nat.lt_of_le_of_lt (Nat.add_le_add_left (nbytes_le n).2 128) (by decide)),
      if_neg (Nat.not_lt.mpr (Nat.le_add_right 128 _)), List.length_cons, beBytes_length, Nat.add_comm 128,
      Nat.add_sub_assoc (by decide)]

/-- the encoding determines tag and body: equal encodings start with the same length octet, so
    their headers are equally long -/
theorem addASN1_inj {t t' : UInt8} {b1 b2 : Bytes} (h : addASN1 t b1 = addASN1 t' b2) :
    t = t' ∧ b1 = b2 := by
  unfold addASN1 at h
  simp only [List.cons_append, List.cons.injEq] at h
  refine ⟨h.1, (List.append_inj h.2 ?_).2⟩
  have hd := congrArg (·.headD 0) h.2
  obtain ⟨x, xs, e1⟩ := List.exists_cons_of_ne_nil (encLen_ne_nil b1.length)
  obtain ⟨y, ys, e2⟩ := List.exists_cons_of_ne_nil (encLen_ne_nil b2.length)
  rw [encLen_length_of_head, encLen_length_of_head]
  rw [e1, e2] at hd ⊢
  simp only [List.cons_append, List.headD_cons] at hd ⊢
  subst hd
  rfl

/-! ### inversion of the readers -/

/-- what `readLen` checks of the octets `l` of a long-form length is what makes the builder write
    `0x80 + l.length` and then `l` itself -/
theorem encLen_beVal {l : Bytes} (h4 : l.length ≤ 4) (h128 : ¬ beVal l < 128)
    (hlead : beVal l / 256^(l.length - 1) ≠ 0) :
    encLen (beVal l) = (0x80 + l.length).toUInt8 :: l ∧ beVal l < 2^32 := by
  have hlt := beVal_lt l
  refine ⟨?_, ?_⟩
  · rw [encLen, if_neg h128, nbytes_eq_of_bounds h4 hlt hlead, beBytes_beVal]
  · exact Nat.lt_of_lt_of_le hlt (Nat.pow_le_pow_right (by decide) h4)

/-- The length reader accepts only the canonical DER length octets: what it consumed is exactly
    what the builder writes for the length it returned. -/
theorem readLen_inv {s : Bytes} {n : Nat} {tl : Bytes} (h : readLen s = some (n, tl)) :
    s = encLen n ++ tl ∧ n < 2^32 := by
  match s, h with
  | lenByte :: rest, h =>
    rw [readLen] at h
    by_cases hlt : lenByte.toNat < 128
    · rw [if_pos hlt] at h
      obtain ⟨rfl, rfl⟩ := Prod.mk.inj (Option.some.inj h)
      exact ⟨by rw [encLen, if_pos hlt, toNat_toUInt8]; rfl, Nat.lt_trans hlt (by decide)⟩
    · rw [if_neg hlt] at h
      -- every `if … then none` in front of the `some` was passed
      simp only [Option.ite_none_left_eq_some, Option.some.injEq, Prod.mk.injEq] at h
      obtain ⟨hc, h128, hlead, rfl, rfl⟩ := h
      simp only [Bool.or_eq_true, beq_iff_eq, decide_eq_true_eq, not_or, Nat.not_lt] at hc hlead
      obtain ⟨⟨-, hk4⟩, hlen⟩ := hc
      have hl := encLen_beVal (l := rest.take (lenByte.toNat - 128))
      rw [List.length_take_of_le hlen] at hl
      obtain ⟨he, hn⟩ := hl hk4 h128 hlead
      refine ⟨?_, hn⟩
      rw [he, Nat.add_sub_of_le (Nat.le_of_not_lt hlt), toNat_toUInt8, List.cons_append, List.take_append_drop]

/-- `ReadAnyASN1` accepts only canonically encoded elements: the input is the builder's encoding
    of the returned tag and body, followed by the returned rest. -/
theorem readAny_inv {s : Bytes} {t : UInt8} {body rest : Bytes}
    (h : readAny s = some (t, body, rest)) :
    s = addASN1 t body ++ rest ∧ body.length < 2^32 ∧ t.toNat % 32 ≠ 31 := by
  match s, h with
  | tag :: s', h =>
    rw [readAny] at h
    simp only [Option.ite_none_left_eq_some] at h
    obtain ⟨-, htag, h⟩ := h
    split at h
    · cases h
    · next n tl hl =>
      simp only [Option.ite_none_left_eq_some, Option.some.injEq, Prod.mk.injEq] at h
      obtain ⟨hlen, rfl, rfl, rfl⟩ := h
      obtain ⟨hs, hn⟩ := readLen_inv hl
      have hbl : (tl.take n).length = n := List.length_take_of_le (Nat.le_of_not_lt hlen)
      refine ⟨?_, by rw [hbl]; exact hn, by simpa using htag⟩
      simp only [addASN1, hbl, List.cons_append, List.append_assoc, List.take_append_drop]
      rw [hs]

theorem read_readAny {t : UInt8} {s body rest : Bytes} (h : read t s = some (body, rest)) :
    readAny s = some (t, body, rest) := by
  unfold read at h
  split at h
  · next tag b r ha =>
    simp only [Option.ite_none_right_eq_some, beq_iff_eq, Option.some.injEq, Prod.mk.injEq] at h
    obtain ⟨rfl, rfl, rfl⟩ := h
    exact ha
  · cases h

theorem read_inv {t : UInt8} {s body rest : Bytes} (h : read t s = some (body, rest)) :
    s = addASN1 t body ++ rest ∧ body.length < 2^32 ∧ t.toNat % 32 ≠ 31 :=
  readAny_inv (read_readAny h)

theorem read_of_readAny {t : UInt8} {s body rest : Bytes} (h : readAny s = some (t, body, rest)) :
    read t s = some (body, rest) := by
  simp [read, h]

theorem readElement_of_read {t : UInt8} {s body rest : Bytes} (h : read t s = some (body, rest)) :
    readElement t s = some (addASN1 t body, rest) := by
  obtain ⟨hs, _, _⟩ := read_inv h
  simp only [readElement, h]
  rw [hs]; simp

/-- `ReadASN1Element` returns the canonical encoding of the element it consumed -/
theorem readElement_inv {t : UInt8} {s el rest : Bytes} (h : readElement t s = some (el, rest)) :
    ∃ body, el = addASN1 t body ∧ s = el ++ rest ∧ read t s = some (body, rest) := by
  cases hr : read t s with
  | none => simp [readElement, hr] at h
  | some p =>
    obtain ⟨body, r⟩ := p
    rw [readElement_of_read hr] at h
    simp at h
    obtain ⟨rfl, rfl⟩ := h
    exact ⟨body, rfl, (read_inv hr).1, rfl⟩

theorem peek_of_read {t : UInt8} {s body rest : Bytes} (h : read t s = some (body, rest)) :
    peek t s = true := by
  rw [(read_inv h).1, peek_addASN1]
  exact beq_self_eq_true t

theorem peek_ne_of_read {t t' : UInt8} {s body rest : Bytes} (h : read t s = some (body, rest))
    (hne : t ≠ t') : peek t' s = false := by
  rw [(read_inv h).1, peek_addASN1]
  exact beq_false_of_ne hne

theorem readOptional_inv {t : UInt8} {s : Bytes} {ob : Option Bytes} {rest : Bytes}
    (h : readOptional t s = some (ob, rest)) :
    (ob = none ∧ rest = s ∧ peek t s = false) ∨
    (∃ body, ob = some body ∧ peek t s = true ∧ read t s = some (body, rest) ∧
      s = addASN1 t body ++ rest) := by
  unfold readOptional at h
  split at h
  · next hp =>
    obtain ⟨⟨b, r⟩, hr, e⟩ := Option.map_eq_some_iff.mp h
    obtain ⟨rfl, rfl⟩ := Prod.mk.inj e
    exact .inr ⟨b, rfl, hp, hr, (read_inv hr).1⟩
  · next hp =>
    obtain ⟨rfl, rfl⟩ := Prod.mk.inj (Option.some.inj h)
    exact .inl ⟨rfl, rfl, Bool.eq_false_iff.mpr hp⟩

theorem readBigInt_read {s : Bytes} {v : Int} {rest : Bytes} (h : readBigInt s = some (v, rest)) :
    ∃ b, read tINT s = some (b, rest) ∧ checkInt b = true ∧ v = signedVal b := by
  unfold readBigInt at h
  split at h
  · next b r hr =>
    simp only [Option.ite_none_left_eq_some, Bool.not_eq_true', Bool.not_eq_false, Option.some.injEq,
      Prod.mk.injEq] at h
    obtain ⟨hc, rfl, rfl⟩ := h
    exact ⟨b, hr, hc, rfl⟩
  · cases h

theorem readBigInt_of_readInt64 {s : Bytes} {v : Int} {rest : Bytes}
    (h : readInt64 s = some (v, rest)) : readBigInt s = some (v, rest) := by
  unfold readInt64 at h
  unfold readBigInt
  split at h
  · simp only [Option.ite_none_left_eq_some, Bool.or_eq_true, not_or] at h
    exact (if_neg h.1.1).trans h.2
  · cases h

theorem readOID_read {s : Bytes} {o : List Nat} {rest : Bytes} (h : readOID s = some (o, rest)) :
    ∃ b, read tOID s = some (b, rest) := by
  unfold readOID at h
  split at h
  · next b r hr =>
    simp only [Option.ite_none_left_eq_some] at h
    split at h
    · cases h.2
    · split at h
      · exact ⟨b, by rw [hr, (Prod.mk.inj (Option.some.inj h.2)).2]⟩
      · cases h.2
  · cases h

/-! ### contiguous sub-slices -/

/-- `x` occurs in `b` as a contiguous run of bytes -/
def Sub (x b : Bytes) : Prop := ∃ pre post, b = pre ++ x ++ post

theorem Sub.refl (b : Bytes) : Sub b b := ⟨[], [], by simp⟩

theorem Sub.nil (b : Bytes) : Sub [] b := ⟨[], b, by simp⟩

theorem Sub.trans {x y z : Bytes} (h1 : Sub x y) (h2 : Sub y z) : Sub x z := by
  obtain ⟨p1, q1, rfl⟩ := h1
  obtain ⟨p2, q2, rfl⟩ := h2
  exact ⟨p2 ++ p1, q1 ++ q2, by simp [List.append_assoc]⟩

theorem Sub.of_eq {x b pre post : Bytes} (h : b = pre ++ x ++ post) : Sub x b := ⟨pre, post, h⟩

theorem Sub.append_left (p : Bytes) (x : Bytes) : Sub x (p ++ x) := ⟨p, [], by simp⟩

theorem Sub.append_right (x q : Bytes) : Sub x (x ++ q) := ⟨[], q, by simp⟩

theorem Sub.length_le {x b : Bytes} (h : Sub x b) : x.length ≤ b.length := by
  obtain ⟨p, q, rfl⟩ := h
  simp; omega

theorem Sub.body (t : UInt8) (body : Bytes) : Sub body (addASN1 t body) :=
  ⟨t :: encLen body.length, [], by simp [addASN1]⟩

theorem readAny_sub {s : Bytes} {t : UInt8} {body rest : Bytes}
    (h : readAny s = some (t, body, rest)) :
    Sub body s ∧ Sub rest s ∧ Sub (addASN1 t body) s := by
  rw [(readAny_inv h).1]
  exact ⟨(Sub.body t body).trans (Sub.append_right _ rest), Sub.append_left _ rest, Sub.append_right _ rest⟩

theorem read_sub {t : UInt8} {s body rest : Bytes} (h : read t s = some (body, rest)) :
    Sub body s ∧ Sub rest s ∧ Sub (addASN1 t body) s :=
  readAny_sub (read_readAny h)

theorem readAny_body_slice {s : Bytes} {t : UInt8} {body rest : Bytes}
    (h : readAny s = some (t, body, rest)) : ∃ pre post, s = pre ++ body ++ post :=
  (readAny_sub h).1

theorem readAny_rest_slice {s : Bytes} {t : UInt8} {body rest : Bytes}
    (h : readAny s = some (t, body, rest)) : ∃ pre post, s = pre ++ rest ++ post :=
  (readAny_sub h).2.1

theorem read_body_slice {t : UInt8} {s body rest : Bytes} (h : read t s = some (body, rest)) :
    ∃ pre post, s = pre ++ body ++ post :=
  (read_sub h).1

theorem read_rest_slice {t : UInt8} {s body rest : Bytes} (h : read t s = some (body, rest)) :
    ∃ pre post, s = pre ++ rest ++ post :=
  (read_sub h).2.1

theorem readElement_sub {t : UInt8} {s el rest : Bytes} (h : readElement t s = some (el, rest)) :
    Sub el s ∧ Sub rest s := by
  obtain ⟨body, rfl, _, hr⟩ := readElement_inv h
  exact ⟨(read_sub hr).2.2, (read_sub hr).2.1⟩

theorem readOptional_sub {t : UInt8} {s : Bytes} {ob : Option Bytes} {rest : Bytes}
    (h : readOptional t s = some (ob, rest)) :
    Sub rest s ∧ ∀ body, ob = some body → Sub body s ∧ Sub (addASN1 t body) s := by
  rcases readOptional_inv h with ⟨rfl, rfl, _⟩ | ⟨body, rfl, _, hr, _⟩
  · exact ⟨Sub.refl _, by intro _ h; cases h⟩
  · refine ⟨(read_sub hr).2.1, ?_⟩
    intro b hb
    cases hb
    exact ⟨(read_sub hr).1, (read_sub hr).2.2⟩

theorem readOptional_getD_sub {t : UInt8} {s : Bytes} {ob : Option Bytes} {rest : Bytes}
    (h : readOptional t s = some (ob, rest)) : Sub (ob.getD []) s := by
  cases ob with
  | none => exact Sub.nil _
  | some b => exact ((readOptional_sub h).2 b rfl).1

theorem readBigInt_sub {s : Bytes} {v : Int} {rest : Bytes} (h : readBigInt s = some (v, rest)) :
    Sub rest s := by
  obtain ⟨b, hr, _⟩ := readBigInt_read h
  exact (read_sub hr).2.1

theorem readInt64_sub {s : Bytes} {v : Int} {rest : Bytes} (h : readInt64 s = some (v, rest)) :
    Sub rest s :=
  readBigInt_sub (readBigInt_of_readInt64 h)

theorem readOID_sub {s : Bytes} {o : List Nat} {rest : Bytes} (h : readOID s = some (o, rest)) :
    Sub rest s := by
  obtain ⟨b, hr⟩ := readOID_read h
  exact (read_sub hr).2.1

end GoUefi.Der
